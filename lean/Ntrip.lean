-- Root of the library: every property module and its ties (so that `lake build` checks everything).
import Ntrip.Properties.C01
import Ntrip.Ties.C01
import Ntrip.Properties.C02
import Ntrip.Ties.C02
import Ntrip.Properties.C03
import Ntrip.Ties.C03
import Ntrip.Properties.C04
import Ntrip.Ties.C04
import Ntrip.Properties.C05
import Ntrip.Ties.C05
import Ntrip.Properties.C06
import Ntrip.Ties.C06
import Ntrip.Properties.C07
import Ntrip.Ties.C07
import Ntrip.Properties.C08
import Ntrip.Ties.C08
import Ntrip.Properties.C09
import Ntrip.Ties.C09
import Ntrip.Properties.C10
import Ntrip.Ties.C10
import Ntrip.Properties.C11
import Ntrip.Ties.C11
import Ntrip.Properties.C12
import Ntrip.Ties.C12
import Ntrip.Properties.C13
import Ntrip.Ties.C13
import Ntrip.Properties.C14
import Ntrip.Ties.C14
import Ntrip.Properties.C15
import Ntrip.Ties.C15
import Ntrip.Properties.C16
import Ntrip.Ties.C16
import Ntrip.Properties.C17
import Ntrip.Ties.C17
import Ntrip.Properties.C18
import Ntrip.Ties.C18
import Ntrip.Properties.C19
import Ntrip.Ties.C19
import Ntrip.Properties.C20
import Ntrip.Ties.C20
-- Used by no property; imported here so that `lake build` checks it.
import Ntrip.Proofs.Enumerate
