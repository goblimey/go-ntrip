/-!
Exact model of the IEEE-754 binary64 operations the display and range code uses, over integers.

A finite value is `m * 2^e` (`Val`); `round53` rounds a value to 53 significant bits, to nearest,
ties to even (the format's rounding; exponent range is not modelled — every value handled here
lies between 2^-70 and 2^70, far from the subnormal and overflow thresholds).  `fixed4` is
`fmt`'s `%.4f`: the exact value rounded to four decimals, ties to even, as a count of 0.0001 units.
-/
namespace Ntrip.F64

/-- `m / p` rounded to the nearest integer, ties to even (`p > 0`). -/
def rhe (m p : Int) : Int :=
  if 2 * (m % p) < p then m / p
  else if p < 2 * (m % p) then m / p + 1
  else if (m / p) % 2 = 0 then m / p else m / p + 1

structure Val where
  m : Int
  e : Int
deriving Repr, DecidableEq

/-- Number of binary digits of a natural number. -/
def bitLen (a : Nat) : Nat := if a = 0 then 0 else a.log2 + 1

/-- Round to 53 significant bits, nearest-even. -/
def round53 (v : Val) : Val :=
  let k := bitLen v.m.natAbs - 53
  { m := rhe v.m (2 ^ k), e := v.e + k }

/-- Floating-point multiplication: the exact product, rounded once. -/
def mul (a b : Val) : Val := round53 { m := a.m * b.m, e := a.e + b.e }

/-- `float64(n)` for an integer. -/
def ofInt (n : Int) : Val := round53 { m := n, e := 0 }

/-- The binary64 nearest to 0.0001 (`math.Float64bits(0.0001) = 0x3F1A36E2EB1C432D`). -/
def c0001 : Val := { m := 7378697629483821, e := -66 }

/-- Multiplication or division by a power of two: exact (no rounding) in the normal range. -/
def scale2 (v : Val) (j : Int) : Val := { v with e := v.e + j }

/-- The binary64 nearest to 299792.458, the length of one light millisecond in metres
    (`utils.OneLightMillisecond`): `5150395210789814 / 2^34`. -/
def cLightMs : Val := { m := 5150395210789814, e := -34 }

/-- Floating-point division of a value by a positive integer constant `d` (exactly
    representable): the exact quotient rounded once to 53 bits, nearest-even.  The numerator is
    first scaled by `2^(64 + bitLen d)` so that the integer quotient has at least 64 bits. -/
def divConst (a : Val) (d : Nat) : Val :=
  if a.m = 0 then { m := 0, e := 0 } else
  let s := 64 + bitLen d
  let n := a.m * 2 ^ s
  let k := bitLen (n.natAbs / d) - 53
  { m := rhe n ((d : Int) * 2 ^ k), e := a.e - s + k }

/-- Floating-point division by a positive value: the exact quotient rounded once to 53 bits. -/
def divVal (a b : Val) : Val :=
  if a.m = 0 then { m := 0, e := 0 } else
  let d := b.m.natAbs
  let s := 64 + bitLen d
  let n := a.m * 2 ^ s
  let k := bitLen (n.natAbs / d) - 53
  { m := rhe n ((d : Int) * 2 ^ k), e := a.e - b.e - s + k }

/-- Exact negation (`x * -1`). -/
def neg (a : Val) : Val := { a with m := -a.m }

/-- The carrier wavelength as the code computes it: `SpeedOfLightMS / frequency` for an integer
    frequency in Hz (both exactly representable), rounded once. -/
def wavelength (f : Nat) : Val := divVal (ofInt 299792458) (ofInt f)

/-- The phase range in cycles as the code computes it from an aggregate phase range (units 2^-31 ms). -/
def phaseCycles (S f : Nat) : Val := divVal (mul (scale2 (ofInt S) (-31)) cLightMs) (wavelength f)

/-- The Doppler in Hz as the code computes it from the aggregate rate (units 0.0001 m/s). -/
def dopplerHz (A : Int) (f : Nat) : Val := neg (divVal (divConst (ofInt A) 10000) (wavelength f))

/-- `v * 2^s` as an integer, for `s` large enough that nothing is lost. -/
def Val.scaled (v : Val) (s : Int) : Int := v.m * 2 ^ (v.e + s).toNat

/-- `%.4f`: the nearest multiple of 0.0001 (ties to even) to the exact value, as an integer count. -/
def fixed4 (v : Val) : Int :=
  if 0 ≤ v.e then v.m * 2 ^ v.e.toNat * 10000 else rhe (v.m * 10000) (2 ^ (-v.e).toNat)

/-- The decimal text of a count of 0.0001 units with four decimals. -/
def render4 (n : Int) : String :=
  let a := n.natAbs
  let frac := toString (a % 10000)
  (if n < 0 then "-" else "") ++ toString (a / 10000) ++ "." ++ String.ofList (List.replicate (4 - frac.length) '0') ++ frac

/-- Normalised IEEE fields of a non-zero value with at most 53 significant bits: (negative, biased exponent, 53-bit significand). -/
def ieee (v : Val) : Bool × Int × Nat :=
  let a := v.m.natAbs
  if a = 0 then (false, 0, 0) else
  let l := bitLen a
  -- a * 2^e = (a * 2^(53-l)) * 2^(e + l - 53), significand in [2^52, 2^53)
  (v.m < 0, v.e + l - 1 + 1023, a * 2 ^ (53 - l))

end Ntrip.F64
