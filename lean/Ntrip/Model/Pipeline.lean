/-!
A labelled transition system for the reader → framer → fan-out → writers pipeline of
go-ntrip (file_handler.Handle, handler.HandleMessages, appcore.HandleMessagesUntilEOF and the
writer goroutines and `main` of the applications).

* R (reader, `Handle`): sends the `nBytes` input bytes one by one on the unbuffered byte
  channel B, then closes B (`defer close`).
* F (framer, `HandleMessages`): a sequential process that alternately receives bytes from B
  and sends messages on the unbuffered channel M; after seeing B closed it sends what is left
  and closes M.  *When* it emits is described by `produced r c` — the number of messages it
  has produced after `r` bytes (`c`: having seen the close) — about which only monotonicity
  and `produced nBytes true = out.length` are assumed: the theorems hold for every timing.
* D (fan-out, `HandleMessagesUntilEOF`): receives a message from M and sends it to the
  consumer channels 0 … k-1 in order, skipping nil entries; returns when M is closed.
* main (the application after D returned): closes the consumer channels it is configured to
  close, optionally waits for the writers, returns.
* W_i (writers): receive from channel i (capacity `cap i`; 0 = rendezvous), handle the message
  (two steps: begin, end — arbitrary latency in between), finish when the channel is closed
  and drained.

Go channel semantics: send on a closed channel, close of a closed or nil channel → `panic`.
-/
namespace Ntrip.Pipe

/-- Point update of a function. -/
def upd {α : Type} (f : Nat → α) (i : Nat) (v : α) : Nat → α := fun j => if j = i then v else f j

@[simp] theorem upd_same {α : Type} (f : Nat → α) (i : Nat) (v : α) : upd f i v i = v := if_pos rfl
theorem upd_other {α : Type} {f : Nat → α} {i j : Nat} {v : α} (h : j ≠ i) : upd f i v j = f j := if_neg h

structure Cfg (M : Type) where
  nBytes : Nat
  out : List M
  produced : Nat → Bool → Nat
  k : Nat
  cap : Nat → Nat
  isNil : Nat → Bool
  closes : Nat → Bool      -- the channels main closes after the fan-out returned
  waits : Bool             -- main waits for the writers before returning

/-- Assumptions on the configuration. -/
structure Cfg.WF {M : Type} (c : Cfg M) : Prop where
  prod_le : ∀ r b, c.produced r b ≤ c.out.length
  prod_mono : ∀ r r' b b', r ≤ r' → (b = true → b' = true) → c.produced r b ≤ c.produced r' b'
  prod_final : c.produced c.nBytes true = c.out.length
  closes_nonnil : ∀ i, c.closes i = true → c.isNil i = false

structure PS (M : Type) where
  rSent : Nat
  bClosed : Bool
  fRecv : Nat
  fSeenClosed : Bool
  fEmit : Nat
  mClosed : Bool
  dHold : Option Nat        -- D holds message `fEmit - 1`; next consumer to serve
  dDone : Bool
  buf : Nat → List M
  chClosed : Nat → Bool
  wCur : Nat → Option M
  handled : Nat → List M
  wDone : Nat → Bool
  mainIdx : Nat
  mainReturned : Bool
  panic : Bool

def init (M : Type) : PS M :=
  { rSent := 0, bClosed := false, fRecv := 0, fSeenClosed := false, fEmit := 0, mClosed := false,
    dHold := none, dDone := false, buf := fun _ => [], chClosed := fun _ => false, wCur := fun _ => none,
    handled := fun _ => [], wDone := fun _ => false, mainIdx := 0, mainReturned := false, panic := false }

/-- F is at a receive (it has sent everything it has produced so far and has not seen the close). -/
def fWantsRecv {M : Type} (c : Cfg M) (s : PS M) : Prop :=
  s.fSeenClosed = false ∧ s.fEmit = c.produced s.fRecv false

inductive Step {M : Type} (c : Cfg M) : PS M → PS M → Prop
  | rSend (s) : s.panic = false → s.rSent < c.nBytes → s.bClosed = false → fWantsRecv c s →
      Step c s { s with rSent := s.rSent + 1, fRecv := s.fRecv + 1 }
  | rClose (s) : s.panic = false → s.rSent = c.nBytes → s.bClosed = false →
      Step c s { s with bClosed := true }
  | fSeeClosed (s) : s.panic = false → s.bClosed = true → fWantsRecv c s →
      Step c s { s with fSeenClosed := true }
  | fSend (s) : s.panic = false → s.fEmit < c.produced s.fRecv s.fSeenClosed → s.mClosed = false →
      s.dHold = none → s.dDone = false →
      Step c s { s with fEmit := s.fEmit + 1, dHold := some 0 }
  | fClose (s) : s.panic = false → s.fSeenClosed = true → s.fEmit = c.produced s.fRecv true → s.mClosed = false →
      Step c s { s with mClosed := true }
  | dSeeClosed (s) : s.panic = false → s.mClosed = true → s.dHold = none → s.dDone = false →
      Step c s { s with dDone := true }
  | dSkipNil (s j) : s.panic = false → s.dHold = some j → j < c.k → c.isNil j = true →
      Step c s { s with dHold := some (j + 1) }
  | dSendBuf (s j m) : s.panic = false → s.dHold = some j → j < c.k → c.isNil j = false → s.chClosed j = false →
      (s.buf j).length < c.cap j → c.out[s.fEmit - 1]? = some m →
      Step c s { s with buf := upd s.buf j (s.buf j ++ [m]), dHold := some (j + 1) }
  | dSendRv (s j m) : s.panic = false → s.dHold = some j → j < c.k → c.isNil j = false → s.chClosed j = false →
      c.cap j = 0 → s.wCur j = none → s.wDone j = false → s.buf j = [] → c.out[s.fEmit - 1]? = some m →
      Step c s { s with wCur := upd s.wCur j (some m), dHold := some (j + 1) }
  | dSendClosed (s j) : s.panic = false → s.dHold = some j → j < c.k → c.isNil j = false → s.chClosed j = true →
      Step c s { s with panic := true }
  | dNext (s) : s.panic = false → s.dHold = some c.k →
      Step c s { s with dHold := none }
  | mainClose (s) : s.panic = false → s.dDone = true → s.mainIdx < c.k → c.closes s.mainIdx = true →
      c.isNil s.mainIdx = false → s.chClosed s.mainIdx = false →
      Step c s { s with chClosed := upd s.chClosed s.mainIdx true, mainIdx := s.mainIdx + 1 }
  | mainCloseBad (s) : s.panic = false → s.dDone = true → s.mainIdx < c.k → c.closes s.mainIdx = true →
      (c.isNil s.mainIdx = true ∨ s.chClosed s.mainIdx = true) →
      Step c s { s with panic := true }
  | mainSkip (s) : s.panic = false → s.dDone = true → s.mainIdx < c.k → c.closes s.mainIdx = false →
      Step c s { s with mainIdx := s.mainIdx + 1 }
  | mainReturn (s) : s.panic = false → s.dDone = true → s.mainIdx = c.k → s.mainReturned = false →
      (c.waits = true → ∀ i, i < c.k → c.isNil i = false → s.wDone i = true) →
      Step c s { s with mainReturned := true }
  | wRecv (s j m rest) : s.panic = false → j < c.k → c.isNil j = false → s.wDone j = false → s.wCur j = none →
      s.buf j = m :: rest →
      Step c s { s with buf := upd s.buf j rest, wCur := upd s.wCur j (some m) }
  | wFinish (s j m) : s.panic = false → j < c.k → c.isNil j = false → s.wCur j = some m →
      Step c s { s with wCur := upd s.wCur j none, handled := upd s.handled j (s.handled j ++ [m]) }
  | wSeeClosed (s j) : s.panic = false → j < c.k → c.isNil j = false → s.wDone j = false → s.wCur j = none →
      s.buf j = [] → s.chClosed j = true →
      Step c s { s with wDone := upd s.wDone j true }

inductive Reach {M : Type} (c : Cfg M) : PS M → Prop
  | init : Reach c (init M)
  | step {s s'} : Reach c s → Step c s s' → Reach c s'

/-- Number of messages consumer `i` has been handed so far. -/
def cnt {M : Type} (s : PS M) (i : Nat) : Nat :=
  match s.dHold with
  | some j => if j ≤ i then s.fEmit - 1 else s.fEmit
  | none => s.fEmit

/-! ### What the liveness theorems (deadlock freedom, termination) are stated with -/
section
variable {M : Type}

/-- Everything has finished: main has returned and every writer has ended. -/
def Final (c : Cfg M) (s : PS M) : Prop :=
  s.mainReturned = true ∧ ∀ i, i < c.k → c.isNil i = false → s.wDone i = true

def sumTo (k : Nat) (f : Nat → Nat) : Nat := ((List.range k).map f).sum

def b2n (b : Bool) : Nat := if b then 1 else 0

/-- Work left for writer `i`: two steps per message not yet handled (one less when one is in
    hand), plus the final step of seeing the channel closed. -/
def wWork (c : Cfg M) (s : PS M) (i : Nat) : Nat :=
  2 * (c.out.length - (s.handled i).length) - b2n (s.wCur i).isSome + b2n (!s.wDone i)

/-- Work left for the fan-out while it holds a message and stands at consumer `j`: it falls with every
    consumer served or skipped and is still positive when the message is let go. -/
def dWork (c : Cfg M) (s : PS M) : Nat :=
  match s.dHold with
  | some j => c.k + 2 - j
  | none => 0

/-- The termination measure: the number of steps the system can still make is bounded by it. -/
def measure (c : Cfg M) (s : PS M) : Nat :=
  (c.nBytes - s.rSent) + b2n (!s.bClosed) + b2n (!s.fSeenClosed) + b2n (!s.mClosed) + b2n (!s.dDone) +
  (c.out.length - s.fEmit) * (c.k + 3) + dWork c s + sumTo c.k (wWork c s) + (c.k - s.mainIdx) +
  b2n (!s.mainReturned)

end

end Ntrip.Pipe
