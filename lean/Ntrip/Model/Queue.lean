/-!
Model of apps/proxy/circular_queue: `Items` is a map from a running index to the message;
modelled as the list of (key, message) pairs in ascending key order (which is how every
reader of the map looks at it: `getKeysInAscendingOrder`).
-/
namespace Ntrip

structure CQ (α : Type) where
  max : Int                   -- MaxItems
  items : List (Int × α)      -- ascending keys
  next : Int                  -- NextIndex

def CQ.new {α : Type} (max : Int) : CQ α := { max := max, items := [], next := 0 }

/-- The eviction loop of `Add`: walk the keys in ascending order, deleting while the map
    still holds `MaxItems` or more. -/
def evict {α : Type} (max : Int) : List (Int × α) → List (Int × α)
  | [] => []
  | kv :: rest => if ((kv :: rest).length : Int) ≥ max then evict max rest else kv :: rest

/-- `Add`. -/
def CQ.add {α : Type} (q : CQ α) (m : α) : CQ α :=
  let items := if (q.items.length : Int) ≥ q.max then evict q.max q.items else q.items
  { q with items := items ++ [(q.next, m)], next := q.next + 1 }

/-- `GetMessages`. -/
def CQ.get {α : Type} (q : CQ α) : List α := q.items.map (·.2)

def CQ.adds {α : Type} (q : CQ α) (ms : List α) : CQ α := ms.foldl CQ.add q

end Ntrip
