import Ntrip.Proofs.FrameBasic
/-!
`HandleMessages` on a finite input that is eventually closed: fetch until "done".
The recursion is on the number of bytes still to be delivered (push-back included); its
decrease is `fetch_size` — a proof obligation, not an assumption.
-/
namespace Ntrip

theorem fetch_size {crc : Bytes → Nat} {s s' : In} {m : Msg} (h : fetch crc s = .msg m s') :
    s'.size < s.size := by
  obtain ⟨h1, h2⟩ := fetchC_size s
  unfold fetch at h
  cases hf : fetchC s <;> rw [hf] at h h1 h2 <;> cases h
  all_goals
    have := h2 (by simp)
    simp only [FetchC.sizeLe] at h1
    omega

/-- The messages `HandleMessages` sends before it closes its output. -/
def segment (crc : Bytes → Nat) (s : In) : List Msg :=
  match h : fetch crc s with
  | .done => []
  | .msg m s' => m :: segment crc s'
termination_by s.size
decreasing_by exact fetch_size h

end Ntrip
