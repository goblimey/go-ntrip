/-!
Model of apps/proxy/reportfeed: `Sanitise` and the assembly of the status page from the
template `reportFormat` (five `%s` holes) — on character lists.
-/
namespace Ntrip

/-- `Sanitise`: replace every '<' by "&lt;" and every '>' by "&gt;". -/
def sanitise : List Char → List Char
  | [] => []
  | c :: rest =>
    if c = '<' then '&' :: 'l' :: 't' :: ';' :: sanitise rest
    else if c = '>' then '&' :: 'g' :: 't' :: ';' :: sanitise rest
    else c :: sanitise rest

/-- Fill a template given as the text pieces around the holes: `p0 h0 p1 h1 … pn`. -/
def fill : List (List Char) → List (List Char) → List Char
  | [], _ => []
  | [p], _ => p
  | p :: ps, h :: hs => p ++ h ++ fill ps hs
  | p :: ps, [] => p ++ fill ps []

def countC (c : Char) (s : List Char) : Nat := (s.filter (· == c)).length

/-- The message list of the report: a heading, then every recent message's text, sanitised,
    each followed by a newline. -/
def messageDisplay (texts : List (List Char)) : List Char :=
  "\nMessages\n\n".toList ++ (texts.map (fun t => sanitise t ++ ['\n'])).flatten

end Ntrip
