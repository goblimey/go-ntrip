import Ntrip.Model.Crc
/-!
Model of rtcm/pushback (ByteChannel) and the framing part of rtcm/handler:
`eatUntilStartOfFrame`, `getMessageLengthAndType`, `CheckCRC`, `GetMessage` (without the
MSM time lines, see `Model/Time.lean`), `FetchNextMessageFrame`, on a finite input that is
eventually closed (`HandleMessages` itself is `segment` in `Model/Segment.lean`).
-/
namespace Ntrip

/-- Error classes of `GetMessage` (canonical; texts are not modelled). -/
inductive Err
  | none | short | badLeader | zeroLength | incomplete | crc | tsShort | timeRange | unknownConst
deriving DecidableEq, Repr, Inhabited

def Err.toString : Err → String
  | .none => "none" | .short => "short" | .badLeader => "bad-leader" | .zeroLength => "zero-length"
  | .incomplete => "incomplete" | .crc => "crc" | .tsShort => "ts-short" | .timeRange => "time-range"
  | .unknownConst => "unknown-constellation"

/-- The framing view of a `handler.Message`. -/
structure Msg where
  typ : Int
  raw : Bytes
  err : Err := .none
deriving DecidableEq, Repr, Inhabited

def nonRTCM (bs : Bytes) : Msg := { typ := -1, raw := bs }

/-! ### pushback.ByteChannel over a finite, eventually closed input -/

/-- `pb` is the push-back buffer (FIFO, as `append` / `[1:]` make it), `rest` the bytes the
    channel will still deliver before it is closed. -/
structure In where
  pb : Bytes
  rest : Bytes
deriving DecidableEq, Repr, Inhabited

def In.size (s : In) : Nat := s.pb.length + s.rest.length
def In.stream (s : In) : Bytes := s.pb ++ s.rest
def In.ofBytes (bs : Bytes) : In := ⟨[], bs⟩

/-- `GetNextByte`: `none` is the "done" error (channel closed and drained). -/
def getNextByte (s : In) : Option (UInt8 × In) :=
  match s.pb with
  | b :: pb' => some (b, { s with pb := pb' })
  | [] =>
    match s.rest with
    | b :: r => some (b, { s with rest := r })
    | [] => none

def pushBack (s : In) (b : UInt8) : In := { s with pb := s.pb ++ [b] }

theorem getNextByte_size {s s' : In} {b : UInt8} (h : getNextByte s = some (b, s')) :
    s'.size + 1 = s.size := by
  rcases s with ⟨_ | ⟨x, pb⟩, _ | ⟨y, rest⟩⟩ <;> simp [getNextByte] at h <;> obtain ⟨rfl, rfl⟩ := h <;>
    simp [In.size] <;> omega

/-- `eatUntilStartOfFrame`: read until a 0xD3 byte (inclusive) or the end of input.
    The Boolean is `true` when a start byte was found (`err == nil`). -/
def eat (s : In) (acc : Bytes) : Bytes × In × Bool :=
  match h : getNextByte s with
  | none => (acc, s, false)
  | some (b, s') => if b = 0xD3 then (acc ++ [b], s', true) else eat s' (acc ++ [b])
termination_by s.size
decreasing_by have := getNextByte_size h; omega

/-- The `for` loops of phases 2 and 3: read `n` more bytes; `false` if the input ended first. -/
def readMore : Nat → In → Bytes → Bytes × In × Bool
  | 0, s, frame => (frame, s, true)
  | n+1, s, frame =>
    match getNextByte s with
    | none => (frame, s, false)
    | some (b, s') => readMore n s' (frame ++ [b])

/-- `getMessageLengthAndType`: (length, type, error). -/
def lengthAndType (bs : Bytes) : Nat × Int × Err :=
  if bs.length < 5 then (0, -1, .short)
  else if bs.head? != some 0xD3 then (0, -1, .badLeader)
  else if getBitsU bs 8 6 != 0 then (0, -1, .badLeader)
  else
    let length := getBitsU bs 14 10
    let typ : Int := getBitsU bs 24 12
    if length = 0 then (0, typ, .zeroLength) else (length, typ, .none)

/-- `CheckCRC` on a frame of at least 6 bytes: the last three bytes against the CRC of the rest. -/
def checkCRC (crc : Bytes → Nat) (frame : Bytes) : Bool :=
  if frame.length < 6 then false
  else frame.drop (frame.length - 3) == crcBytes (crc (frame.take (frame.length - 3)))

/-- Outcome of the framing part of `GetMessage`. -/
inductive GM
  | empty                      -- `nil, error` (zero length input)
  | msg (m : Msg)              -- a message (with or without an error)
deriving DecidableEq, Repr

/-- `GetMessage` up to and including the CRC check (the MSM time lines are added in
    `Model/Time.lean`; they never change `typ` or `raw`). -/
def getMessageCore (crc : Bytes → Nat) (bs : Bytes) : GM :=
  if bs = [] then .empty
  else if bs.head? != some 0xD3 then .msg (nonRTCM bs)
  else
    let (len, typ, e) := lengthAndType bs
    if e != .none then .msg { typ := typ, raw := bs, err := e }
    else
      let expected := len + 6
      if expected > bs.length then .msg { typ := -1, raw := bs, err := .incomplete }
      else if !checkCRC crc (bs.take expected) then .msg { typ := -1, raw := bs, err := .crc }
      else .msg { typ := typ, raw := bs.take expected }

/-- Outcome of one `FetchNextMessageFrame` before `GetMessage` is applied. -/
inductive FetchC
  | done                          -- `nil, "done"`
  | junk (raw : Bytes) (s : In)   -- returned through `NewNonRTCM`
  | frame (f : Bytes) (s : In)    -- phase 4: `GetMessage(frame)`
deriving DecidableEq, Repr

/-- Phase 3: read the rest of the frame (`wantBytes` more bytes). -/
def fetchPhase3 (frame : Bytes) (len : Nat) (s2 : In) : FetchC :=
  match readMore (len + 6 - frame.length) s2 frame with
  | (f, s3, true) => .frame f s3
  | (f, s3, false) => .junk f s3

/-- Phase 2: read the leader and the first two message bytes, get the length. -/
def fetchPhase2 (frame : Bytes) (s1 : In) : FetchC :=
  match readMore 4 s1 frame with
  | (f, s2, false) => .junk f s2
  | (f, s2, true) =>
    match lengthAndType f with
    | (len, _, .none) => fetchPhase3 f len s2
    | (_, _, _) => .junk f s2

def fetchC (s : In) : FetchC :=
  match eat s [] with
  | (frame, s1, ok) =>
    if !ok && frame.isEmpty then .done
    else if frame.length > 1 then
      if frame.getLast? == some 0xD3 then .junk frame.dropLast (pushBack s1 0xD3)
      else .junk frame s1
    else fetchPhase2 frame s1

/-- What `HandleMessages` sends for one fetched frame. -/
def msgOfFrame (crc : Bytes → Nat) (f : Bytes) : Msg :=
  match getMessageCore crc f with
  | .msg m => m
  | .empty => nonRTCM f   -- unreachable: a fetched frame is never empty

inductive Fetch
  | done
  | msg (m : Msg) (s : In)
deriving DecidableEq, Repr

def fetch (crc : Bytes → Nat) (s : In) : Fetch :=
  match fetchC s with
  | .done => .done
  | .junk raw s' => .msg (nonRTCM raw) s'
  | .frame f s' => .msg (msgOfFrame crc f) s'

end Ntrip
