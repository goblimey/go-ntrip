import Ntrip.Model.Base
/-!
Model of `handler.Analyse` / `PrepareForDisplay`: dispatch on the message type (by the
extracted shape of the switch) to the four decoders, applied to the message's raw bytes.
-/
namespace Ntrip

inductive Readable
  | msm (k : MsmKind) (m : MsmMsg)
  | base (k : BaseKind) (vals : List Int)
  | text
deriving DecidableEq, Repr

/-- `Analyse(message)`: the readable part or the decoder's error (which becomes
    `message.ErrorMessage`); `Res.panic` is an index error somewhere in the decoders. -/
def analyse (typ : Int) (raw : Bytes) : Res Readable :=
  match analyseDecoder typ with
  | .msm4 => do let m ← decodeMsm .msm4 raw; pure (.msm .msm4 m)
  | .msm7 => do let m ← decodeMsm .msm7 raw; pure (.msm .msm7 m)
  | .t1005 => do let v ← decodeBase .t1005 raw; pure (.base .t1005 v)
  | .t1006 => do let v ← decodeBase .t1006 raw; pure (.base .t1006 v)
  | .text => pure .text

end Ntrip
