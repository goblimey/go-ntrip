import Ntrip.Spec.Frame
import Ntrip.Spec.Scan
import Ntrip.Proofs.Bits
/-! `lengthAndType`, `scan` and `GetMessage` on byte strings with a sound leader and the announced length (`Framed`):
    what `ValidFrame` and `Corrupted` share, and all the framing code looks at before the CRC (list level). -/
namespace Ntrip

theorem bitAt_take (f : Bytes) (k i : Nat) (h : i < 8 * k) : bitAt (f.take k) i = bitAt f i := by
  unfold bitAt
  have : i / 8 < k := by omega
  rw [List.getElem?_take_of_lt this]

theorem specU_take (f : Bytes) (k pos n : Nat) (h : pos + n ≤ 8 * k) :
    specU (f.take k) pos n = specU f pos n :=
  specU_congr _ _ pos n (fun i hi => bitAt_take f k (pos + i) (by omega))

theorem lengthAndType_spec (f : Bytes) :
    lengthAndType f =
      if f.length < 5 then (0, -1, .short)
      else if f.head? ≠ some 0xD3 then (0, -1, .badLeader)
      else if specU f 8 6 ≠ 0 then (0, -1, .badLeader)
      else if specU f 14 10 = 0 then (0, typeOf f, .zeroLength)
      else (specU f 14 10, typeOf f, .none) := by
  simp only [lengthAndType, typeOf, getBitsU_eq _ _ 6 (by decide), getBitsU_eq _ _ 10 (by decide),
    getBitsU_eq _ _ 12 (by decide), bne_iff_ne]

theorem lengthAndType_take (f : Bytes) {k : Nat} (h : 5 ≤ k) : lengthAndType (f.take k) = lengthAndType f := by
  by_cases hf : f.length < 5
  · rw [List.take_of_length_le (by omega)]
  · have hl : ¬ (f.take k).length < 5 := by rw [List.length_take]; omega
    have hd : (f.take k).head? = f.head? := by rw [List.head?_take, if_neg (by omega)]
    rw [lengthAndType_spec, lengthAndType_spec f, if_neg hl, if_neg hf, hd, typeOf, typeOf,
      specU_take f k 8 6 (by omega), specU_take f k 14 10 (by omega), specU_take f k 24 12 (by omega)]

theorem lengthAndType_prefix {t f : Bytes} (hpre : t <+: f) (h : 5 ≤ t.length) : lengthAndType f = lengthAndType t := by
  rw [← lengthAndType_take f h, ← List.prefix_iff_eq_take.mp hpre]

theorem lengthAndType_ok_iff {f : Bytes} {len : Nat} {t : Int} :
    lengthAndType f = (len, t, .none) ↔
      5 ≤ f.length ∧ f.head? = some 0xD3 ∧ specU f 8 6 = 0 ∧ specU f 14 10 = len ∧ len ≠ 0 ∧ t = typeOf f := by
  rw [lengthAndType_spec]
  grind  -- the four `if`s of `lengthAndType_spec`, one by one

theorem scan_of_ne {b : UInt8} (hb : b ≠ 0xD3) (r : Bytes) :
    scan (b :: r) = .junk ((b :: r).takeWhile (· != 0xD3)) ((b :: r).dropWhile (· != 0xD3)) := by
  rw [scan, if_pos hb]

theorem scan_of_head {st : Bytes} (hd : st.head? = some 0xD3) :
    scan st =
      if st.length < 5 then .junk st []
      else if (lengthAndType st).2.2 ≠ .none then .junk (st.take 5) (st.drop 5)
      else if st.length < (lengthAndType st).1 + 6 then .junk st []
      else .frame (st.take ((lengthAndType st).1 + 6)) (st.drop ((lengthAndType st).1 + 6)) := by
  cases st with
  | nil => simp at hd
  | cons b r =>
    obtain rfl : b = 0xD3 := by simpa using hd
    have h4 : r.length + 1 < 5 ↔ r.length < 4 := by omega
    simp only [scan, ne_eq, not_true_eq_false, if_false, lengthAndType_take _ (Nat.le_refl 5), List.length_cons,
      Nat.add_lt_add_iff_right, h4]

theorem checkCRC_iff (crc : Bytes → Nat) (f : Bytes) :
    checkCRC crc f = true ↔ 6 ≤ f.length ∧ f.drop (f.length - 3) = crcBytes (crc (f.take (f.length - 3))) := by
  simp [checkCRC, Nat.not_lt]

/-- A sound leader and exactly the announced length: all of `ValidFrame` but the CRC, and all that
    `scan` and `GetMessage` ask before they look at the CRC. -/
def Framed (f : Bytes) : Prop := lengthAndType f = (f.length - 6, typeOf f, .none)

theorem framed_iff {f : Bytes} :
    Framed f ↔ f.head? = some 0xD3 ∧ specU f 8 6 = 0 ∧ 1 ≤ specU f 14 10 ∧ f.length = 3 + specU f 14 10 + 3 := by
  rw [Framed, lengthAndType_ok_iff]
  grind  -- with `L = specU f 14 10`: `len - 6 = L ∧ L ≠ 0` is `1 ≤ L ∧ len = 3 + L + 3`

theorem Framed.head? {f : Bytes} (hF : Framed f) : f.head? = some 0xD3 := (framed_iff.mp hF).1

/-- `f.length - 6` loses nothing. -/
theorem Framed.length {f : Bytes} (hF : Framed f) : f.length - 6 + 6 = f.length := by
  have := framed_iff.mp hF
  omega

theorem Framed.ne_nil {f : Bytes} (hF : Framed f) : f ≠ [] :=
  fun h => by simpa [h] using hF.head?

theorem Framed.of_prefix {f bs : Bytes} {len : Nat} {t : Int} (hpre : f <+: bs) (h : lengthAndType bs = (len, t, .none))
    (hl : f.length = len + 6) : Framed f ∧ t = typeOf f := by
  rw [lengthAndType_prefix hpre (by omega)] at h
  obtain ⟨-, -, -, -, -, rfl⟩ := lengthAndType_ok_iff.mp h
  exact ⟨by rw [Framed, h, hl, Nat.add_sub_cancel], rfl⟩

theorem validFrame_iff {crc : Bytes → Nat} {f : Bytes} : ValidFrame crc f ↔ Framed f ∧ checkCRC crc f = true := by
  rw [framed_iff, checkCRC_iff]
  exact ⟨fun h => ⟨⟨h.1, h.2, h.3, h.4⟩, by have := h.4; omega, h.5⟩, fun ⟨⟨h1, h2, h3, h4⟩, _, h5⟩ => ⟨h1, h2, h3, h4, h5⟩⟩

theorem ValidFrame.framed {crc : Bytes → Nat} {f : Bytes} (hv : ValidFrame crc f) : Framed f := (validFrame_iff.mp hv).1

theorem specU_of_take_eq {f g : Bytes} {k : Nat} (h : f.take k = g.take k) (pos n : Nat) (hn : pos + n ≤ 8 * k) :
    specU f pos n = specU g pos n := by
  rw [← specU_take f k pos n hn, ← specU_take g k pos n hn, h]

theorem Corrupted.framed {crc : Bytes → Nat} {f' : Bytes} (hc : Corrupted crc f') :
    Framed f' ∧ checkCRC crc f' = false := by
  obtain ⟨⟨f, hv, h3, hl⟩, hcrc⟩ := hc
  have hd : f'.head? = f.head? := by
    simpa [List.head?_take] using congrArg List.head? h3
  refine ⟨framed_iff.mpr ?_, ?_⟩
  · rw [hd, specU_of_take_eq h3 8 6 (by omega), specU_of_take_eq h3 14 10 (by omega), hl]
    exact ⟨hv.preamble, hv.reserved, hv.lenNonzero, hv.size⟩
  · rw [← Bool.not_eq_true, checkCRC_iff]
    exact fun h => hcrc h.2

theorem scan_framed {f : Bytes} (hF : Framed f) (rest : Bytes) : scan (f ++ rest) = .frame f rest := by
  have hd : (f ++ rest).head? = some 0xD3 := by rw [List.head?_append, hF.head?]; rfl
  have e := hF.length
  rw [scan_of_head hd, lengthAndType_prefix (List.prefix_append f rest) (by omega), hF]
  dsimp only
  -- the three tests of `scan_of_head`: five bytes are there, the leader is sound, the announced length is there
  rw [e, List.length_append, if_neg (by omega), if_neg (by simp), if_neg (by omega), List.take_left, List.drop_left]

theorem scan_valid {crc : Bytes → Nat} {f : Bytes} (hv : ValidFrame crc f) (rest : Bytes) :
    scan (f ++ rest) = .frame f rest :=
  scan_framed hv.framed rest

theorem scan_frame {st f rest : Bytes} (h : scan st = .frame f rest) : f ++ rest = st ∧ Framed f := by
  obtain ⟨h1, len, t, hlt, hl⟩ := scan_spec h
  rw [lengthAndType_take _ (Nat.le_refl 5)] at hlt
  exact ⟨h1, (Framed.of_prefix ⟨rest, h1⟩ hlt hl).1⟩

theorem getMessageCore_framed (crc : Bytes → Nat) {f : Bytes} (hF : Framed f) :
    getMessageCore crc f =
      .msg (if checkCRC crc f then { typ := typeOf f, raw := f } else { typ := -1, raw := f, err := .crc }) := by
  simp only [getMessageCore, hF.ne_nil, hF.head?, show lengthAndType f = _ from hF, hF.length, if_false, bne_self_eq_false,
    Bool.false_eq_true, Nat.lt_irrefl, gt_iff_lt, List.take_length]
  cases checkCRC crc f <;> rfl

theorem msgOfFrame_framed (crc : Bytes → Nat) {f : Bytes} (hF : Framed f) :
    msgOfFrame crc f =
      if checkCRC crc f then { typ := typeOf f, raw := f } else { typ := -1, raw := f, err := .crc } := by
  rw [msgOfFrame, getMessageCore_framed crc hF]

theorem msgOfFrame_valid {crc : Bytes → Nat} {f : Bytes} (hv : ValidFrame crc f) :
    msgOfFrame crc f = { typ := typeOf f, raw := f } := by
  obtain ⟨hF, hc⟩ := validFrame_iff.mp hv
  rw [msgOfFrame_framed crc hF, if_pos hc]

theorem msgOfFrame_corrupt {crc : Bytes → Nat} {f' : Bytes} (hc : Corrupted crc f') :
    msgOfFrame crc f' = { typ := -1, raw := f', err := .crc } := by
  rw [msgOfFrame_framed crc hc.framed.1, hc.framed.2]; rfl

theorem scan_junk_run {j rest : Bytes} (hne : j ≠ []) (hj : (0xD3 : UInt8) ∉ j)
    (hrest : rest = [] ∨ rest.head? = some 0xD3) : scan (j ++ rest) = .junk j rest := by
  have hp : ∀ a ∈ j, (a != 0xD3) = true := fun a ha => bne_iff_ne.mpr fun h => hj (h ▸ ha)
  have hr : rest.takeWhile (· != 0xD3) = [] ∧ rest.dropWhile (· != 0xD3) = rest := by
    rcases hrest with rfl | h
    · exact ⟨rfl, rfl⟩
    · obtain ⟨r, rfl⟩ := List.head?_eq_some_iff.mp h
      simp
  cases j with
  | nil => exact absurd rfl hne
  | cons a t =>
    rw [List.cons_append, scan_of_ne (bne_iff_ne.mp (hp a (by simp))), ← List.cons_append,
      List.takeWhile_append_of_pos hp, List.dropWhile_append_of_pos hp, hr.1, hr.2, List.append_nil]

theorem Framed.head?_of_prefix {t f : Bytes} (hF : Framed f) (hne : t ≠ []) (hpre : t <+: f) :
    t.head? = some 0xD3 := by
  obtain ⟨u, rfl⟩ := hpre
  cases t with
  | nil => exact absurd rfl hne
  | cons a _ => exact hF.head?

theorem scan_trunc {t f : Bytes} (hF : Framed f) (hne : t ≠ []) (hpre : t <+: f) (hlen : t.length < f.length) :
    scan t = .junk t [] := by
  have e := hF.length
  rw [scan_of_head (hF.head?_of_prefix hne hpre)]
  by_cases h5 : t.length < 5
  · rw [if_pos h5]
  · rw [if_neg h5, ← lengthAndType_prefix hpre (by omega), hF, if_neg (by simp), if_pos (by simp only; omega)]

theorem lengthAndType_typed {bs : Bytes} {len : Nat} {t : Int} {e : Err} (h : lengthAndType bs = (len, t, e))
    (ht : 0 ≤ t) : e = .none ∨ e = .zeroLength := by
  rw [lengthAndType_spec] at h
  grind  -- of the five outcomes only the last two carry a type `≥ 0`

theorem getMessageCore_typed (crc : Bytes → Nat) (bs : Bytes) (m : Msg)
    (h : getMessageCore crc bs = .msg m) (htyp : 0 ≤ m.typ) :
    (m.err = .zeroLength ∧ m.raw = bs) ∨
    (m.err = .none ∧ ValidFrame crc m.raw ∧ m.raw <+: bs ∧ m.typ = typeOf m.raw) := by
  revert h
  fun_cases getMessageCore crc bs with
  | case1 => nofun
  -- no start byte, incomplete, CRC failure: the type is -1
  | case2 | case4 | case5 => rintro ⟨⟩; simp [nonRTCM] at htyp
  | case3 hne hd len typ e hlt he =>
    rintro ⟨⟩
    rcases lengthAndType_typed hlt htyp with rfl | rfl
    · simp at he
    · exact Or.inl ⟨rfl, rfl⟩
  | case6 hne hd len typ e hlt he expected hlen hcrc =>
    rintro ⟨⟩
    obtain rfl : e = .none := by simpa using he
    have hl : (bs.take (len + 6)).length = len + 6 := List.length_take_of_le (by omega)
    obtain ⟨hF, ht⟩ := Framed.of_prefix (List.take_prefix (len + 6) bs) hlt hl
    exact Or.inr ⟨rfl, validFrame_iff.mpr ⟨hF, by simpa using hcrc⟩, List.take_prefix _ _, ht⟩

/-- C01, single-frame clause: `GetMessage` returns a typed message without an error only for
    bytes that start with exactly one valid frame, and the message holds exactly that frame. -/
theorem getMessageCore_typed_valid (crc : Bytes → Nat) (bs : Bytes) (m : Msg)
    (h : getMessageCore crc bs = .msg m) (htyp : 0 ≤ m.typ) (herr : m.err = .none) :
    ValidFrame crc m.raw ∧ m.raw <+: bs ∧ m.typ = typeOf m.raw := by
  rcases getMessageCore_typed crc bs m h htyp with ⟨he, _⟩ | ⟨_, hv⟩
  · rw [herr] at he; cases he
  · exact hv
end Ntrip
