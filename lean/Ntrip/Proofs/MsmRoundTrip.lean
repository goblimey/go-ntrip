import Ntrip.Proofs.MsmSafe
import Ntrip.Proofs.Tables
import Ntrip.Spec.CellOrder
/-! The MSM round trip (C04): each decoder stage on a buffer that carries an encoded message, and
    the attachment loop as row-major numbering of the cell mask. -/
namespace Ntrip

theorem rdU_natBits (bs : Bytes) (pos w v : Nat) (hw : w ≤ 64) (hv : v < 2^w)
    (hag : Agrees bs pos (natBits w v)) : rdU bs pos w = .ok v := by
  rw [rdU_ok (natBits_length w v ▸ hag.fits), getBitsU_eq _ _ _ hw, specU_natBits hag, Nat.mod_eq_of_lt hv]

theorem headerAccepts_of_accepts (k : MsmKind) (t : Int) (h : k.accepts t = true) : headerAccepts t = true := by
  rw [headerAccepts_eq_isMSM, isMSM, Bool.or_eq_true]
  cases k
  · exact .inl h
  · exact .inr h

theorem slack_le (k : MsmKind) : crcSlack k ≤ 24 := by cases k <;> decide

/-- The type field is unsigned: the header's `uint` of it is the encoded value. -/
theorem typ_toNat {vals : List Int} (h : FieldsWF hdrStd vals) :
    (((vals.getD 0 0).toNat : Nat) : Int) = vals.getD 0 0 :=
  match vals, h with
  | _ :: _, hf => Int.toNat_of_nonneg hf.2.2.2.1.1

/-- The fixed fields start after the 24 leader bits and are 169 bits wide, so the cell mask starts at bit 193; the
    length guard of `GetMSMHeader` asks for 24 more bits (the CRC): 217. -/
theorem header_roundtrip (bs : Bytes) (m : MsmSpec) (hwf : FieldsWF hdrStd m.hvals)
    (hacc : headerAccepts m.typ = true) (h64 : m.nsat * m.nsig ≤ 64) (hlt : m.cellMask < 2^(m.nsat * m.nsig))
    (hagH : Agrees bs 24 (encodeFields hdrStd m.hvals)) (hagM : Agrees bs 193 (natBits (m.nsat * m.nsig) m.cellMask))
    (hlen : 217 + m.nsat * m.nsig ≤ 8 * bs.length) :
    getMSMHeader bs = .ok (mkHeader m.hvals m.cellMask, 193 + m.nsat * m.nsig) := by
  unfold MsmSpec.nsat MsmSpec.nsig MsmSpec.sats MsmSpec.sigs MsmSpec.typ at *
  unfold getMSMHeader
  rw [hdrCols_std]
  simp only [Gen.header_minBitsInHeader, width_hdrStd]
  rw [if_neg (by omega), readFields_encode bs hdrStd m.hvals 24 hwf hagH, Res.ok_bind, typ_toNat hwf,
    if_neg (by rw [hacc]; exact Bool.false_ne_true), if_neg (Nat.not_lt.2 h64), if_neg (by omega),
    rdU_natBits bs 193 _ m.cellMask h64 hlt hagM]
  rfl

theorem sat_roundtrip (bs : Bytes) (k : MsmKind) (pos n : Nat) (cols : List (List Int))
    (hwf : ColumnsWF n (satStd k) cols) (hag : Agrees bs pos (encodeColumns (satStd k) cols))
    (hlen : pos + n * widthOf (satStd k) + 24 ≤ 8 * bs.length) :
    getSatelliteCells k bs pos n = .ok cols := by
  have := slack_le k
  unfold getSatelliteCells
  rw [satCols_std]
  simp only
  rw [if_neg (by omega)]
  exact readColumns_encode bs n (satStd k) cols pos hwf hag

theorem sig_roundtrip (bs : Bytes) (k : MsmKind) (pos : Nat) (h : MsmHeader) (cols : List (List Int))
    (hwf : ColumnsWF h.numCells (sigStd k) cols) (hmulti : h.multiple = true → 1 ≤ h.numCells)
    (hag : Agrees bs pos (encodeColumns (sigStd k) cols))
    (hlen : pos + h.numCells * widthOf (sigStd k) + 24 ≤ 8 * bs.length) :
    getSignalCells k bs pos h = .ok (attach h.sats h.sigs cols h.numCells h.cells 0 0) := by
  have hs := slack_le k
  have hw := sigStd_width_pos k
  have hav : h.numCells ≤ _ := (le_cellsAvailable hw (by omega)).2 (Nat.le_of_add_right_le hlen)
  unfold getSignalCells
  rw [sigCols_std]
  simp only [ite_lt_eq_min, Nat.min_eq_right hav]
  rw [if_neg (by omega), if_neg fun hh => ?_, if_neg (by simp), readColumns_encode bs _ (sigStd k) cols pos hwf hag]
  · rfl
  -- the multiple-message guard: with the flag set there is a cell, and its bits are there
  · simp only [Bool.and_eq_true, decide_eq_true_eq] at hh
    have := Nat.le_mul_of_pos_left (widthOf (sigStd k)) (hmulti hh.1)
    omega

theorem satStd_width (k : MsmKind) : widthOf (satStd k) = (match k with | .msm4 => 18 | .msm7 => 36) := by
  cases k <;> decide

theorem decodeMsm_of_stages {k : MsmKind} {bs : Bytes} {h : MsmHeader} {pos : Nat} {satV : List (List Int)}
    {sigs : List (List SigCell)} (hh : getMSMHeader bs = .ok (h, pos)) (hacc : k.accepts (h.typ : Int) = true)
    (hs : getSatelliteCells k bs pos h.sats.length = .ok satV)
    (hg : getSignalCells k bs (pos + h.sats.length * widthOf (satStd k)) h = .ok sigs) :
    decodeMsm k bs = .ok { hdr := h, sats := transpose satV h.sats.length, sigs := sigs } := by
  unfold decodeMsm
  rw [hh, Res.ok_bind]
  simp only
  rw [if_neg (by rw [hacc]; exact Bool.false_ne_true), satCols_std]
  simp only
  rw [hs, Res.ok_bind, hg]
  rfl

theorem decodeMsm_of_agrees (k : MsmKind) (m : MsmSpec) (bs : Bytes) (hwf : MsmWF k m)
    (hag : Agrees bs 24 (msmBits k m)) (hlen : 24 + (msmBits k m).length + 24 ≤ 8 * bs.length) :
    decodeMsm k bs = .ok (msmView m) := by
  have hH := encodeFields_length hdrStd m.hvals hwf.hdr
  have hS := encodeColumns_length m.nsat (satStd k) m.satCols hwf.sats
  have hG := encodeColumns_length m.ncells (sigStd k) m.sigCols hwf.sigs
  rw [msmBits] at hag hlen
  obtain ⟨hagH, hag⟩ := hag.split
  obtain ⟨hagM, hag⟩ := hag.split
  obtain ⟨hagS, hagG⟩ := hag.split
  simp only [List.length_append, hH, hS, hG, natBits_length, width_hdrStd] at hagM hagS hagG hlen
  have hh := header_roundtrip bs m hwf.hdr (headerAccepts_of_accepts k _ hwf.family) hwf.cellsFit hwf.cellMaskLt
    hagH hagM (by omega)
  have hs := sat_roundtrip bs k _ m.nsat m.satCols hwf.sats hagS (by omega)
  have hg := sig_roundtrip bs k _ (mkHeader m.hvals m.cellMask) m.sigCols hwf.sigs hwf.multi hagG
    (show _ + m.ncells * _ + 24 ≤ _ by omega)
  exact decodeMsm_of_stages hh (typ_toNat hwf.hdr ▸ hwf.family) hs hg

theorem msm_roundtrip (k : MsmKind) (m : MsmSpec) (pad : Nat) (leader crc : Bytes)
    (hl : leader.length = 3) (hc : crc.length = 3) (hwf : MsmWF k m) :
    decodeMsm k (msmFrame leader k m pad crc) = .ok (msmView m) :=
  have ⟨hag, hlen⟩ := frame_carries leader hl (msmBits k m) (List.replicate pad 0) crc hc
  decodeMsm_of_agrees k m _ hwf hag hlen

theorem numberFrom_eq_zipIdx {α : Type} (l : List α) (c : Nat) : numberFrom l c = l.zipIdx c := by
  induction l generalizing c with
  | nil => rfl
  | cons a t ih => rw [numberFrom, ih, List.zipIdx_cons]

theorem rowPositions_length (row : List Bool) (j : Nat) : (rowPositions row j).length = (row.filter id).length := by
  induction row generalizing j with
  | nil => rfl
  | cons b t ih => cases b <;> simp [rowPositions, ih]

theorem attachRow_spec (sats sigs : List Nat) (rows : List (List Int)) (n i : Nat)
    (row : List Bool) (j c : Nat) (h : c + (row.filter id).length ≤ n) :
      attachRow sigs i (sats.getD i 0) rows n row j c =
        ((numberFrom (rowPositions row j) c).map (fun p => mkCell sats sigs rows i p.1 p.2),
         c + (row.filter id).length) := by
  fun_induction attachRow sigs i (sats.getD i 0) rows n row j c with
  | case1 => rfl
  | case2 b rest j c hc cell more c' heq ih =>
    simp only [Bool.and_eq_true, decide_eq_true_eq] at hc
    simp only [hc.2, List.filter_cons, id, if_true, List.length_cons] at h ⊢
    rw [ih (by omega)] at heq
    cases heq
    simp only [rowPositions, if_true, numberFrom, List.map_cons, Nat.add_assoc, Nat.add_comm 1]
    rfl
  | case3 b rest j c hc ih =>
    cases b with
    | false => exact ih (by simpa using h)
    | true => simp at hc h; omega

/-- **Attachment is row-major numbering of the set cell-mask bits.** -/
theorem attach_spec (sats sigs : List Nat) (rows : List (List Int)) (n : Nat) :
    ∀ (cells : List (List Bool)) (i c : Nat), c + countCells cells ≤ n →
      (attach sats sigs rows n cells i c).flatten =
        (numberFrom (cellPositions cells i) c).map (fun p => mkCell sats sigs rows p.1.1 p.1.2 p.2)
  | [], _, _, _ => by simp [attach, cellPositions, numberFrom]
  | row :: rest, i, c, h => by
    have hcount : countCells (row :: rest) = (row.filter id).length + countCells rest := by
      simp [countCells]
    rw [hcount] at h
    rw [attach, attachRow_spec sats sigs rows n i row 0 c (by omega)]
    simp only [List.flatten_cons]
    rw [attach_spec sats sigs rows n rest (i+1) _ (by omega)]
    simp only [cellPositions, numberFrom_eq_zipIdx, List.zipIdx_append, List.zipIdx_map, List.map_append,
      List.map_map, List.length_map, rowPositions_length]
    rfl
end Ntrip
