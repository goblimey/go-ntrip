import Ntrip.Proofs.FrameSpec
/-! List-level theorems behind C01 and C02. -/
namespace Ntrip

/-- C02 (list level): the delivered raw bytes concatenate to the input. -/
theorem segmentS_lossless (crc : Bytes → Nat) (st : Bytes) :
    ((segmentS crc st).map (·.raw)).flatten = st := by
  fun_induction segmentS crc st with
  | case1 st h => exact (scan_spec h).symm
  | case2 st raw rest h ih => simp [ih, nonRTCM, (scan_spec h).1]
  | case3 st f rest h ih =>
    obtain ⟨h1, hF⟩ := scan_frame h
    have hraw : (msgOfFrame crc f).raw = f := by rw [msgOfFrame_framed crc hF]; split <;> rfl
    simp [ih, hraw, h1]

/-- The three kinds of message `HandleMessages` delivers. -/
theorem segmentS_mem (crc : Bytes → Nat) (st : Bytes) : ∀ m ∈ segmentS crc st,
    (∃ raw, raw ≠ [] ∧ m = nonRTCM raw) ∨
    (∃ f, ValidFrame crc f ∧ m = { typ := typeOf f, raw := f }) ∨
    (∃ f, Framed f ∧ m = { typ := -1, raw := f, err := .crc }) := by
  fun_induction segmentS crc st with
  | case1 => simp
  | case2 st raw rest h ih =>
    rintro m (_ | ⟨_, hm⟩)
    · exact Or.inl ⟨raw, (scan_spec h).2, rfl⟩
    · exact ih m hm
  | case3 st f rest h ih =>
    rintro m (_ | ⟨_, hm⟩)
    · have hF := (scan_frame h).2
      rw [msgOfFrame_framed crc hF]
      by_cases hc : checkCRC crc f
      · rw [if_pos hc]; exact Or.inr (Or.inl ⟨f, validFrame_iff.mpr ⟨hF, hc⟩, rfl⟩)
      · rw [if_neg hc]; exact Or.inr (Or.inr ⟨f, hF, rfl⟩)
    · exact ih m hm

/-- C01 (list level): a typed message carries exactly one valid frame. -/
theorem segmentS_typed_valid (crc : Bytes → Nat) (st : Bytes) (m : Msg) (hm : m ∈ segmentS crc st)
    (htyp : 0 ≤ m.typ) : ValidFrame crc m.raw ∧ m.typ = typeOf m.raw ∧ m.err = .none := by
  rcases segmentS_mem crc st m hm with ⟨raw, _, rfl⟩ | ⟨f, hv, rfl⟩ | ⟨f, _, rfl⟩
  · simp [nonRTCM] at htyp
  · exact ⟨hv, rfl, rfl⟩
  · simp at htyp

theorem segmentS_raw_ne_nil (crc : Bytes → Nat) (st : Bytes) (m : Msg) (hm : m ∈ segmentS crc st) :
    m.raw ≠ [] := by
  rcases segmentS_mem crc st m hm with ⟨raw, hne, rfl⟩ | ⟨f, hv, rfl⟩ | ⟨f, hF, rfl⟩
  · exact hne
  · exact hv.framed.ne_nil
  · exact hF.ne_nil
end Ntrip
