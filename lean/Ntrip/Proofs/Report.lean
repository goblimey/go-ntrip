import Ntrip.Model.Report
/-! Sanitise removes all markup characters; filling clean holes keeps the template's markup count. -/
namespace Ntrip

theorem sanitise_no_lt (s : List Char) : '<' ∉ sanitise s ∧ '>' ∉ sanitise s := by
  fun_induction sanitise s with
  | case1 => simp
  | case2 rest ih => simpa using ih
  | case3 rest _ ih => simpa using ih
  | case4 c rest h1 h2 ih => simpa [Ne.symm h1, Ne.symm h2] using ih

theorem countC_eq_count (c : Char) : countC c = List.count c := by
  funext s; rw [countC, List.count_eq_length_filter]

theorem countC_fill (c : Char) (parts holes : List (List Char)) (hh : ∀ h ∈ holes, c ∉ h) :
    countC c (fill parts holes) = (parts.map (countC c)).sum := by
  rw [countC_eq_count]
  fun_induction fill parts holes with
  | case1 => rfl
  | case2 p => simp
  | case3 p ps h hs _ ih =>
    rw [List.count_append, List.count_append, List.count_eq_zero_of_not_mem (hh h (List.mem_cons_self ..)),
      ih (fun x hx => hh x (List.mem_cons_of_mem _ hx))]
    simp
  | case4 p ps _ ih => rw [List.count_append, ih hh]; simp

theorem not_mem_messageDisplay {c : Char} (hhead : c ∉ "\nMessages\n\n".toList) (hnl : c ≠ '\n')
    (hs : ∀ t, c ∉ sanitise t) (texts : List (List Char)) : c ∉ messageDisplay texts := by
  unfold messageDisplay
  rw [List.mem_append, List.mem_flatten]
  rintro (h | ⟨l, hl, h⟩)
  · exact hhead h
  · obtain ⟨t, -, rfl⟩ := List.mem_map.mp hl
    rcases List.mem_append.mp h with h | h
    · exact hs t h
    · exact hnl (List.mem_singleton.mp h)

theorem messageDisplay_no_markup (texts : List (List Char)) :
    '<' ∉ messageDisplay texts ∧ '>' ∉ messageDisplay texts := by
  have hhead : '<' ∉ "\nMessages\n\n".toList ∧ '>' ∉ "\nMessages\n\n".toList := by
    -- a literal is `String.ofList` of its characters: no need to decode it
    rw [String.toList_ofList]; decide
  exact ⟨not_mem_messageDisplay hhead.1 (by decide) (fun t => (sanitise_no_lt t).1) texts,
    not_mem_messageDisplay hhead.2 (by decide) (fun t => (sanitise_no_lt t).2) texts⟩
end Ntrip
