import Ntrip.Spec.History
/-! Arithmetic of the timestamp conversion: the week of the specification (`weekPos`, `trueWeekStart`), its rollover, and
    what `newState`, `weekConv`, `parseGlonass` compute in those terms. -/
namespace Ntrip

theorem weekPos_nonneg (c : Constellation) (u : Int) : 0 ≤ weekPos c u := Int.emod_nonneg _ (by decide)

theorem weekPos_lt (c : Constellation) (u : Int) : weekPos c u < 604800000 := Int.emod_lt_of_pos _ (by decide)

theorem weekPos_weekStart (c : Constellation) (u : Int) : weekPos c (trueWeekStart c u) = 0 := by
  simp only [trueWeekStart, weekPos]
  omega

theorem weekStart_idem (c : Constellation) (u : Int) : trueWeekStart c (trueWeekStart c u) = trueWeekStart c u := by
  rw [trueWeekStart, weekPos_weekStart, Int.sub_zero]

theorem weekStart_le (c : Constellation) (u : Int) : trueWeekStart c u ≤ u :=
  Int.sub_le_self _ (weekPos_nonneg c u)

theorem weekStart_add_weekPos (c : Constellation) (u : Int) : trueWeekStart c u + weekPos c u = u :=
  Int.sub_add_cancel ..

/-- Rollover.  After this lemma `weekPos` is an atom for `omega`. -/
theorem weekStart_next (c : Constellation) (p u : Int) (h1 : p ≤ u) (h2 : u - p < 604800000) :
    trueWeekStart c u = trueWeekStart c p ∧ weekPos c p ≤ weekPos c u ∨
    trueWeekStart c u = trueWeekStart c p + 604800000 ∧ weekPos c u < weekPos c p := by
  simp only [trueWeekStart, weekPos]
  omega

/-- `u` follows the instant `p` closely enough for the rollover tests: not earlier, and less than six days later, or
    less than a week if `p` is the start of a week. -/
def Follows (c : Constellation) (p u : Int) : Prop :=
  p ≤ u ∧ (u - p < 518400000 ∨ weekPos c p = 0 ∧ u - p < 604800000)

theorem Follows.lt_week {c : Constellation} {p u : Int} (h : Follows c p u) : u - p < 604800000 := by
  obtain ⟨_, h | h⟩ := h <;> omega

/-- `New` finds the constellation's week by shifting to Sunday-based time (`+ a`) and back. -/
theorem startOfLastSunday_shift (x a : Int) (c : Constellation) (h : weekBase c = 259200000 - a) :
    startOfLastSunday (x + a) - a = trueWeekStart c x := by
  simp only [startOfLastSunday, dayMs, trueWeekStart, weekPos, h]
  omega

theorem newState_eq (T : Int) :
    newState T =
      { gps := trueWeekStart .gps T, gal := trueWeekStart .galileo T, glo := trueWeekStart .glonass T,
        bei := trueWeekStart .beidou T, pGps := 0, pGal := 0, pBei := 0, gDay := 0 } := by
  rw [← startOfLastSunday_shift T 18000 .gps rfl, ← startOfLastSunday_shift T 18000 .galileo rfl,
    ← startOfLastSunday_shift T 10800000 .glonass rfl, ← startOfLastSunday_shift T 4000 .beidou rfl]
  rfl

theorem newState_congr {T1 T2 : Int} (hw : ∀ c, trueWeekStart c T1 = trueWeekStart c T2) :
    newState T1 = newState T2 := by
  simp only [newState_eq, hw]

theorem weekConv_eq (ts prev : Nat) (start : Int) :
    weekConv ts prev start =
      if ts < 604800000 then
        some ((if prev > ts then start + 604800000 else start) + ts, if prev > ts then start + 604800000 else start)
      else none := by
  have : ((ts : Int) > Gen.utils_MaxTimestamp) ↔ ¬ ts < 604800000 := by
    simp only [Gen.utils_MaxTimestamp]
    omega
  simp only [weekConv, this, ite_not]
  rfl

theorem trueTs_week {c : Constellation} (hc : c ≠ .glonass) (u : Int) : (trueTs c u : Int) = weekPos c u := by
  cases c <;> first | contradiction | exact Int.toNat_of_nonneg (weekPos_nonneg _ u)

/-- GPS, Galileo and BeiDou share `getUTCFromTimestamp`. -/
theorem weekConv_true {c : Constellation} (hc : c ≠ .glonass) (p u : Int) (h1 : p ≤ u) (h2 : u - p < 604800000) :
    weekConv (trueTs c u) (trueTs c p) (trueWeekStart c p) = some (u, trueWeekStart c u) := by
  have hp := trueTs_week hc p
  have hu := trueTs_week hc u
  have := weekPos_lt c u
  rw [weekConv_eq, if_pos (by omega), hu]
  rcases weekStart_next c p u h1 h2 with ⟨e, h⟩ | ⟨e, h⟩
  · rw [if_neg (by omega), ← e, weekStart_add_weekPos]
  · rw [if_pos (by omega), ← e, weekStart_add_weekPos]

theorem parseGlonass_eq (ts : Nat) :
    parseGlonass ts = if ts / 2^27 ≤ 6 ∧ ts % 2^27 < 86400000 then some (ts / 2^27, ts % 2^27) else none := by
  unfold parseGlonass
  simp only [Gen.utils_MaxTimestampGlonass, Gen.utils_MillisIn24Hours, Nat.shiftRight_eq_div_pow]
  split
  · rw [if_neg (by omega)]
  · split
    · rw [if_neg (by omega)]
    · rw [if_pos (by omega)]

theorem parseGlonass_pack (d m : Nat) (hd : d ≤ 6) (hm : m < 86400000) :
    parseGlonass (d * 2^27 + m) = some (d, m) := by
  have hm' : m < 2^27 := Nat.lt_trans hm (by decide)
  rw [parseGlonass_eq, Nat.add_comm, Nat.add_mul_div_right _ _ (by decide), Nat.add_mul_mod_self_right,
    Nat.div_eq_of_lt hm', Nat.mod_eq_of_lt hm', Nat.zero_add, if_pos ⟨hd, hm⟩]

theorem parseGlonass_illegal {ts : Nat} (h : ¬ legalTs .glonass ts) : parseGlonass ts = none := by
  rw [parseGlonass_eq]
  exact if_neg h

theorem parseGlonass_true (u : Int) :
    parseGlonass (trueTs .glonass u) = some (gloDay u, (weekPos .glonass u % 86400000).toNat) := by
  have := weekPos_nonneg .glonass u
  have := weekPos_lt .glonass u
  exact parseGlonass_pack _ _ (by omega) (by omega)

/-- The day decreases exactly when the week has rolled over. -/
theorem glonass_week {p u : Int} (hf : Follows .glonass p u) :
    (if gloDay u < gloDay p then trueWeekStart .glonass p + weekMs else trueWeekStart .glonass p) =
      trueWeekStart .glonass u := by
  have hu := weekPos_nonneg .glonass u
  rcases weekStart_next .glonass p u hf.1 hf.lt_week with ⟨e, h⟩ | ⟨e, h⟩
  · have hd : ¬ gloDay u < gloDay p := Nat.not_lt.2 (Int.toNat_le_toNat (Int.ediv_le_ediv (by decide) h))
    rw [if_neg hd, e]
  · -- rolled over, so `p` is not a week start and `u - p` is less than six days: `u` is more than a day earlier
    -- in its week than `p` in its own
    have hd : gloDay u < gloDay p := by
      obtain ⟨h1, h2⟩ := hf
      simp only [trueWeekStart] at e
      unfold gloDay
      omega
    rw [if_pos hd, e]
    rfl

theorem glonass_sum (u : Int) :
    trueWeekStart .glonass u + gloDay u * dayMs + ((weekPos .glonass u % 86400000).toNat : Int) = u := by
  have hu := weekPos_nonneg .glonass u
  rw [gloDay, Int.toNat_of_nonneg (Int.ediv_nonneg hu (by decide)), Int.toNat_of_nonneg (Int.emod_nonneg _ (by decide)),
    Int.add_assoc, dayMs, Int.ediv_mul_add_emod, weekStart_add_weekPos]

end Ntrip
