import Ntrip.Proofs.TimeArith
/-! The history theorem behind C06 and C17 (`times_correct`), over a per-constellation view of the handler state in
    which the three week-based constellations are one case. -/
namespace Ntrip

theorem Last.get_empty (c : Constellation) : ({} : Last).get c = none := by cases c <;> rfl

def TState.start (st : TState) : Constellation → Int
  | .gps => st.gps | .galileo => st.gal | .glonass => st.glo | .beidou => st.bei

/-- What the handler keeps of the previous message: its timestamp; for GLONASS its day. -/
def TState.prev (st : TState) : Constellation → Nat
  | .gps => st.pGps | .galileo => st.pGal | .glonass => st.gDay | .beidou => st.pBei

def TState.put (st : TState) (c : Constellation) (start : Int) (prev : Nat) : TState :=
  match c with
  | .gps => { st with gps := start, pGps := prev } | .galileo => { st with gal := start, pGal := prev }
  | .glonass => { st with glo := start, gDay := prev } | .beidou => { st with bei := start, pBei := prev }

theorem TState.start_put (st : TState) (c : Constellation) (s : Int) (p : Nat) : (st.put c s p).start c = s := by
  cases c <;> rfl

theorem timeMethod_typOf (c : Constellation) (hi : Bool) :
    timeMethod (typOf c hi) =
      match c with
      | .gps => "getUTCFromGPSTime" | .galileo => "getUTCFromGalileoTime"
      | .glonass => "getUTCFromGlonassTime" | .beidou => "getUTCFromBeidouTime" := by
  cases c <;> cases hi <;> rfl

theorem startOfWeek_typOf (st : TState) (c : Constellation) (hi : Bool) :
    startOfWeek st (typOf c hi) = some (st.start c) := by
  cases c <;> cases hi <;> simp [startOfWeek, Gen.handler_getStartOfWeek, typOf, List.lookup, TState.start]

theorem sow_gal (st : TState) (hi : Bool) : startOfWeek st (typOf .galileo hi) = some st.gal :=
  startOfWeek_typOf st .galileo hi

theorem msmTime_week (st : TState) {c : Constellation} (hc : c ≠ .glonass) (hi : Bool) (ts : Nat) :
    msmTime st (typOf c hi) ts =
      match weekConv ts (st.prev c) (st.start c) with
      | none => (.rangeErr, st)
      | some (t, ns) => (.ok t, st.put c ns ts) := by
  unfold msmTime
  rw [timeMethod_typOf]
  cases c <;> first
    | exact absurd rfl hc
    | (simp only [beq_iff_eq, String.reduceEq, if_true, if_false]; rfl)

/-- The handler's test `day != prev && day < prev`. -/
theorem bne_and_lt (a b : Nat) : (a != b && decide (a < b)) = decide (a < b) := by
  simp only [Bool.and_eq_right_iff_imp, decide_eq_true_eq, bne_iff_ne]
  omega

theorem msmTime_glonass (st : TState) (hi : Bool) (ts : Nat) :
    msmTime st (typOf .glonass hi) ts =
      match parseGlonass ts with
      | none => (.rangeErr, st)
      | some (day, millis) =>
        let glo := if day < st.prev .glonass then st.start .glonass + weekMs else st.start .glonass
        (.ok (glo + day * dayMs + millis), st.put .glonass glo day) := by
  unfold msmTime
  rw [timeMethod_typOf]
  simp only [beq_iff_eq, String.reduceEq, if_true, if_false, bne_and_lt, decide_eq_true_eq]
  rfl

/-- What the handler stores of an observation at `u`. -/
def prevOf (c : Constellation) (u : Int) : Nat :=
  match c with
  | .glonass => gloDay u
  | _ => trueTs c u

theorem prevOf_weekStart (c : Constellation) (u : Int) : prevOf c (trueWeekStart c u) = 0 := by
  cases c <;> simp [prevOf, gloDay, trueTs, weekPos_weekStart]

theorem Inv.view {T : Int} {L : Last} {st : TState} (h : Inv T L st) (c : Constellation) :
    st.start c = trueWeekStart c ((L.get c).getD T) ∧ st.prev c = ((L.get c).map (prevOf c)).getD 0 := by
  cases c
  · exact ⟨h.gps, h.pGps⟩
  · exact ⟨h.gal, h.pGal⟩
  · exact ⟨h.glo, h.gDay⟩
  · exact ⟨h.bei, h.pBei⟩

theorem inv_new (T : Int) : Inv T {} (newState T) := by
  rw [newState_eq]
  exact ⟨rfl, rfl, rfl, rfl, rfl, rfl, rfl, rfl⟩

theorem Inv.put {T : Int} {L : Last} {st : TState} (h : Inv T L st) (c : Constellation) (u : Int) :
    Inv T (L.set c u) (st.put c (trueWeekStart c u) (prevOf c u)) := by
  cases c
  · exact { h with gps := rfl, pGps := rfl }
  · exact { h with gal := rfl, pGal := rfl }
  · exact { h with glo := rfl, gDay := rfl }
  · exact { h with bei := rfl, pBei := rfl }

/-- Before the first observation the fields of `c` describe the start of the week of `T` (timestamp 0, day 0), so that
    "no observation yet" is not a case of its own. -/
theorem Inv.follows {T : Int} {L : Last} {st : TState} (h : Inv T L st) {c : Constellation} {u : Int}
    (hadm : Admissible T L c u) :
    ∃ p, st.start c = trueWeekStart c p ∧ st.prev c = prevOf c p ∧ Follows c p u := by
  obtain ⟨hs, hp⟩ := h.view c
  unfold Admissible at hadm
  cases hl : L.get c with
  | none =>
    rw [hl] at hs hp hadm
    refine ⟨trueWeekStart c T, (weekStart_idem c T).symm ▸ hs, (prevOf_weekStart c T).symm ▸ hp, hadm ▸ weekStart_le c u,
      .inr ⟨weekPos_weekStart c T, ?_⟩⟩
    have := weekPos_lt c u
    rw [← hadm, trueWeekStart]
    omega
  | some p =>
    rw [hl] at hs hp hadm
    exact ⟨p, hs, hp, hadm.1, .inl hadm.2⟩

theorem msmTime_true {st : TState} {c : Constellation} {p u : Int} (hs : st.start c = trueWeekStart c p)
    (hp : st.prev c = prevOf c p) (hf : Follows c p u) (hi : Bool) :
    msmTime st (typOf c hi) (trueTs c u) = (.ok u, st.put c (trueWeekStart c u) (prevOf c u)) := by
  by_cases hc : c = .glonass
  · subst hc
    rw [msmTime_glonass, hs, show st.prev .glonass = gloDay p from hp, parseGlonass_true]
    dsimp only
    rw [glonass_week hf, glonass_sum]
    rfl
  · have hprev : ∀ v, prevOf c v = trueTs c v := fun v => by cases c <;> first | rfl | exact absurd rfl hc
    rw [msmTime_week st hc, hs, hp, hprev, hprev, weekConv_true hc p u hf.1 hf.lt_week]

theorem msmTime_illegal (st : TState) {c : Constellation} (hi : Bool) {ts : Nat} (h : ¬ legalTs c ts) :
    msmTime st (typOf c hi) ts = (.rangeErr, st) := by
  by_cases hc : c = .glonass
  · subst hc
    rw [msmTime_glonass, parseGlonass_illegal h]
  · have : ¬ ts < 604800000 := by cases c <;> first | exact h | exact absurd rfl hc
    rw [msmTime_week st hc, weekConv_eq, if_neg this]

/-- C06 / C17: every reported time and start of week is the true one, for every history. -/
theorem times_correct (T : Int) : ∀ (evs : List Ev) (L : Last) (st : TState), Inv T L st → Pre T L evs →
    runTimes st evs = expectedTimes T L evs
  | [], _, _, _, _ => rfl
  | .obs c hi u :: rest, L, st, hinv, ⟨hadm, hrest⟩ => by
    obtain ⟨p, hs, hp, hf⟩ := hinv.follows hadm
    simp only [runTimes, expectedTimes, evTyp, evTs, msmTime_true hs hp hf, startOfWeek_typOf, TState.start_put]
    rw [times_correct T rest _ _ (hinv.put c u) hrest]
  | .bad c hi ts :: rest, L, st, hinv, ⟨hbad, hrest⟩ => by
    simp only [runTimes, expectedTimes, evTyp, evTs, msmTime_illegal st hi hbad, startOfWeek_typOf,
      (hinv.view c).1]
    rw [times_correct T rest _ _ hinv hrest]

end Ntrip
