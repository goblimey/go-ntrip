import Ntrip.Proofs.Bits
/-! The encoder side: packed bit strings read back bit by bit, the value of the digits of a number,
    and what it means for a buffer to carry a bit string (`Agrees`). -/
namespace Ntrip

theorem bitN_le (bits : List Bool) (i : Nat) : bitN bits i ≤ 1 := by unfold bitN; split <;> omega

theorem bitN_of_le (bits : List Bool) (i : Nat) (h : bits.length ≤ i) : bitN bits i = 0 := by
  simp [bitN, List.getD_eq_getElem?_getD, List.getElem?_eq_none h]

theorem byteOf_eq_valN (f : Nat → Nat) (k : Nat) : byteOf f k = valN f (8 * k) 8 := by
  simp only [byteOf, valN, Nat.add_zero]; grind  -- eight unfoldings of `valN`, then the arithmetic of the weights

theorem packBits_length (bits : List Bool) : (packBits bits).length = (bits.length + 7) / 8 := by
  simp [packBits]

theorem bitAt_packBits (bits : List Bool) (i : Nat) : bitAt (packBits bits) i = bitN bits i := by
  unfold bitAt packBits
  by_cases h : i / 8 < (bits.length + 7) / 8
  · have hlt : byteOf (bitN bits) (i / 8) < 256 := byteOf_eq_valN _ _ ▸ valN_lt _ (bitN_le bits) _ 8
    rw [List.getElem?_map, List.getElem?_range h]
    simp only [Option.map_some, UInt8.toNat_ofNat', Nat.mod_eq_of_lt hlt]
    rw [Nat.shiftRight_eq_div_pow, byteOf_eq_valN]
    exact (valN_bit _ (bitN_le bits) _ 8 _ (Nat.mod_lt _ (by decide))).trans
      (congrArg _ (Nat.div_add_mod i 8))
  · rw [List.getElem?_eq_none (by simpa using h), bitN_of_le bits i (by omega)]

/-- The last digit is `v % 2`, the others are the digits of `v / 2`. -/
theorem valN_natBits : ∀ (w v : Nat) (f : Nat → Nat) (pos : Nat),
    (∀ i, i < w → f (pos + i) = (v / 2^(w - 1 - i)) % 2) → valN f pos w = v % 2^w
  | 0, _, _, _, _ => by simp [valN, Nat.mod_one]
  | w+1, v, f, pos, hf => by
    rw [valN, valN_natBits w (v / 2) f pos fun i hi => ?_, hf w (Nat.lt_succ_self w), Nat.pow_succ', Nat.mod_mul,
      Nat.add_sub_cancel, Nat.sub_self, Nat.pow_zero, Nat.div_one, Nat.add_comm]
    rw [hf i (Nat.lt_succ_of_lt hi), Nat.div_div_eq_div_mul, ← Nat.pow_succ',
      show (w - 1 - i).succ = w + 1 - 1 - i by omega]

@[simp] theorem natBits_length (w v : Nat) : (natBits w v).length = w := by simp [natBits]

@[simp] theorem fieldBits_length (w : Nat) (v : Int) : (fieldBits w v).length = w := natBits_length _ _

theorem bitN_natBits (w v i : Nat) (hi : i < w) : bitN (natBits w v) i = (v / 2^(w - 1 - i)) % 2 := by
  simp only [bitN, natBits, List.getD_eq_getElem?_getD, List.getElem?_map, List.getElem?_range hi,
    Option.map_some, Option.getD_some, beq_iff_eq]
  rcases Nat.mod_two_eq_zero_or_one (v / 2^(w - 1 - i)) with h | h <;> rw [h] <;> rfl

theorem bitN_append_left (a b : List Bool) (i : Nat) (h : i < a.length) : bitN (a ++ b) i = bitN a i := by
  unfold bitN; rw [List.getD_eq_getElem?_getD, List.getD_eq_getElem?_getD, List.getElem?_append_left h]

theorem bitN_append_right (a b : List Bool) (i : Nat) : bitN (a ++ b) (a.length + i) = bitN b i := by
  unfold bitN
  rw [List.getD_eq_getElem?_getD, List.getD_eq_getElem?_getD,
    List.getElem?_append_right (Nat.le_add_right _ _), Nat.add_sub_cancel_left]

/-- The buffer carries the bit string `bits` from bit position `base` on, inside its length. -/
structure Agrees (bs : Bytes) (base : Nat) (bits : List Bool) : Prop where
  fits : base + bits.length ≤ 8 * bs.length
  bit : ∀ i, i < bits.length → bitAt bs (base + i) = bitN bits i

theorem Agrees.split {bs : Bytes} {base : Nat} {a b : List Bool} (h : Agrees bs base (a ++ b)) :
    Agrees bs base a ∧ Agrees bs (base + a.length) b := by
  have hf := h.fits
  rw [List.length_append, ← Nat.add_assoc] at hf
  refine ⟨⟨Nat.le_of_add_right_le hf, fun i hi => ?_⟩, ⟨hf, fun i hi => ?_⟩⟩
  · rw [h.bit i (List.length_append ▸ Nat.lt_add_right _ hi), bitN_append_left _ _ _ hi]
  · rw [Nat.add_assoc, h.bit _ (List.length_append ▸ Nat.add_lt_add_left hi _), bitN_append_right]

/-- A frame (3-byte leader, the packed bits, anything, 3 CRC bytes) carries the bits from bit 24 on and leaves room
    for the CRC after them: what the decoders' round trips ask of a buffer. -/
theorem frame_carries (leader : Bytes) (hl : leader.length = 3) (bits : List Bool) (rest crc : Bytes)
    (hc : crc.length = 3) :
    Agrees (leader ++ (packBits bits ++ (rest ++ crc))) 24 bits ∧
    24 + bits.length + 24 ≤ 8 * (leader ++ (packBits bits ++ (rest ++ crc))).length := by
  have h24 : 24 = 8 * leader.length := by omega
  have hlen : 24 + bits.length + 24 ≤ 8 * (leader ++ (packBits bits ++ (rest ++ crc))).length := by
    simp only [List.length_append, packBits_length, hl, hc]; omega
  refine ⟨⟨by omega, fun i hi => ?_⟩, hlen⟩
  rw [h24, bitAt_append_right, bitAt_append_left _ _ _ (by rw [packBits_length]; omega), bitAt_packBits]

theorem specU_natBits {bs : Bytes} {pos w v : Nat} (h : Agrees bs pos (natBits w v)) :
    specU bs pos w = v % 2^w := by
  rw [specU_eq_valN]
  exact valN_natBits w v _ pos fun i hi => by rw [h.bit i (by simpa using hi), bitN_natBits w v i hi]
end Ntrip
