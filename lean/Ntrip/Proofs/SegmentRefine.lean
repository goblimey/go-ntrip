import Ntrip.Proofs.FrameSpec
import Ntrip.Model.Segment
/-! The channel-level `fetchC` (push-back buffer, byte channel) refines the list-level `scan`; hence
    `segment` (byte channel with push-back) = `segmentS` (plain lists). -/
namespace Ntrip

/-- The list-level view of a fetch: the channel state replaced by the bytes it will still deliver. -/
def FetchC.abs : FetchC → Scan
  | .done => .done
  | .junk raw s => .junk raw s.stream
  | .frame f s => .frame f s.stream

/-- After the fetch the push-back buffer holds at most one byte. -/
def FetchC.pbOk : FetchC → Prop
  | .done => True
  | .junk _ s => s.pb.length ≤ 1
  | .frame _ s => s.pb.length ≤ 1

theorem pushBack_stream (s : In) (b : UInt8) (h : s.pb = []) : (pushBack s b).stream = b :: s.stream := by
  simp [pushBack, In.stream, h]

/-- Phase 3, seen from the whole string `f ++ s2.stream` of which `f` has been read. -/
theorem phase3_refines (f : Bytes) (len : Nat) (s2 : In) (hp : s2.pb = []) (hf : f.length ≤ len + 6) :
    (fetchPhase3 f len s2).abs =
      (if (f ++ s2.stream).length < len + 6 then Scan.junk (f ++ s2.stream) []
       else .frame ((f ++ s2.stream).take (len + 6)) ((f ++ s2.stream).drop (len + 6)))
    ∧ (fetchPhase3 f len s2).pbOk := by
  -- with `n` bytes still to read, `take`/`drop (len + 6)` of the whole string are `f ++ take n` and `drop n` of the rest
  generalize hn : len + 6 - f.length = n
  rw [show len + 6 = f.length + n by omega, List.take_length_add_append, List.drop_length_add_append,
    List.length_append, fetchPhase3, hn, readMore_eq]
  by_cases h : n ≤ s2.stream.length
  · have hl : ¬ f.length + s2.stream.length < f.length + n := by omega
    simp [h, hl, FetchC.abs, FetchC.pbOk, In.stream_drop, In.pb_drop, hp]
  · have hl : f.length + s2.stream.length < f.length + n := by omega
    simp [h, hl, FetchC.abs, FetchC.pbOk, In.stream_drop, In.pb_drop, hp, List.take_of_length_le (Nat.le_of_not_le h),
      List.drop_of_length_le (Nat.le_of_not_le h)]

theorem phase2_refines (s1 : In) (hp : s1.pb = []) :
    (fetchPhase2 [0xD3] s1).abs = scan (0xD3 :: s1.stream) ∧ (fetchPhase2 [0xD3] s1).pbOk := by
  have hst : (0xD3 :: s1.stream.take 4) ++ (s1.drop 4).stream = 0xD3 :: s1.stream := by
    simp [In.stream_drop]
  -- both sides unfolded: the same tests in the same order (four more bytes? leader sound? the announced length there?)
  simp only [fetchPhase2, readMore_eq, scan, List.singleton_append, ne_eq, not_true_eq_false, if_false,
    List.take_succ_cons, List.drop_succ_cons]
  by_cases h4 : 4 ≤ s1.stream.length
  · simp only [h4, Nat.not_lt.mpr h4, decide_true, if_false]
    rcases hlt : lengthAndType (0xD3 :: s1.stream.take 4) with ⟨len, t, e⟩
    cases e
    case none =>
      have := phase3_refines (0xD3 :: s1.stream.take 4) len (s1.drop 4) (by simp [In.pb_drop, hp])
        (by simp [List.length_take]; omega)
      rwa [hst] at this
    all_goals simp [FetchC.abs, FetchC.pbOk, In.stream_drop, In.pb_drop, hp]
  · simp [h4, Nat.lt_of_not_le h4, FetchC.abs, FetchC.pbOk, In.stream_drop, In.pb_drop, hp,
      List.take_of_length_le (Nat.le_of_not_le h4), List.drop_of_length_le (Nat.le_of_not_le h4)]

theorem fetchC_refines (s : In) (hpb : s.pb.length ≤ 1) :
    (fetchC s).abs = scan s.stream ∧ (fetchC s).pbOk := by
  rcases fetchC_cases s with ⟨hs, he⟩ | ⟨hne, hc, he⟩ | ⟨r, hs, he⟩ | ⟨j, r, hj0, hj, hs, he⟩ <;> rw [he]
  · rw [hs]; exact ⟨rfl, trivial⟩
  · have hsc := scan_junk_run hne hc (Or.inl rfl)
    rw [List.append_nil] at hsc
    exact ⟨by rw [FetchC.abs, In.stream_drop, List.drop_length, hsc],
      by rw [FetchC.pbOk, In.pb_drop, List.length_drop]; omega⟩
  · have := phase2_refines (s.drop 1) (by rw [In.pb_drop]; exact List.drop_eq_nil_of_le hpb)
    rw [In.stream_drop, hs, List.drop_succ_cons, List.drop_zero] at this
    rwa [hs]
  · -- the pushed-back start byte is alone in the buffer, so it is the next byte of the stream
    have hp : (s.drop (j.length + 1)).pb = [] := by rw [In.pb_drop]; exact List.drop_eq_nil_of_le (by omega)
    rw [hs, scan_junk_run hj0 hj (Or.inr rfl)]
    exact ⟨by rw [FetchC.abs, pushBack_stream _ _ hp, In.stream_drop, hs]; simp,
      by simp [FetchC.pbOk, pushBack, hp]⟩

theorem fetch_refines (crc : Bytes → Nat) (s : In) (hpb : s.pb.length ≤ 1) :
    match fetch crc s with
    | .done => segmentS crc s.stream = []
    | .msg m s' => segmentS crc s.stream = m :: segmentS crc s'.stream ∧ s'.pb.length ≤ 1 := by
  obtain ⟨habs, hok⟩ := fetchC_refines s hpb
  unfold fetch
  cases hf : fetchC s <;> rw [hf] at habs hok
  · rw [scan_spec habs.symm]; exact segmentS_nil crc
  · exact ⟨segmentS_junk crc habs.symm, hok⟩
  · exact ⟨segmentS_frame crc habs.symm, hok⟩

theorem segment_eq_segmentS (crc : Bytes → Nat) (s : In) (hpb : s.pb.length ≤ 1) :
    segment crc s = segmentS crc s.stream := by
  fun_induction segment crc s with
  | case1 s h =>
    have hf := fetch_refines crc s hpb
    rw [h] at hf
    exact hf.symm
  | case2 s m s' h ih =>
    have hf := fetch_refines crc s hpb
    rw [h] at hf
    rw [hf.1, ih hf.2]

theorem handleMessages_eq (crc : Bytes → Nat) (bs : Bytes) :
    segment crc (In.ofBytes bs) = segmentS crc bs :=
  segment_eq_segmentS crc (In.ofBytes bs) (Nat.zero_le 1)
end Ntrip
