import Ntrip.Model.F64
/-!
The binary64 model: rounding lemmas, exactness of the four-decimal display of a scaled integer
(`float64(n) * 0.0001` printed with `%.4f`), and an error calculus for the float results of C08.

Errors (`RelErr`, `Approx`) are counted in units of `2^-60`.  One rounding to 53 bits costs `2^-53`,
i.e. 128 units; the unit is finer than that so that the second-order terms of composed errors fit
into one unit and the bounds stay sums.
-/
namespace Ntrip.F64

/-- `rhe` rounds down when the remainder is at most half of `p`, up when it is at least half. -/
theorem rhe_cases (m p : Int) :
    rhe m p = m / p ∧ 2 * (m % p) ≤ p ∨ rhe m p = m / p + 1 ∧ p ≤ 2 * (m % p) := by
  unfold rhe
  by_cases h1 : 2 * (m % p) < p
  · rw [if_pos h1]; exact .inl ⟨rfl, Int.le_of_lt h1⟩
  · by_cases h2 : p < 2 * (m % p)
    · rw [if_neg h1, if_pos h2]; exact .inr ⟨rfl, Int.le_of_lt h2⟩
    · rw [if_neg h1, if_neg h2]
      split
      · exact .inl ⟨rfl, Int.not_lt.1 h2⟩
      · exact .inr ⟨rfl, Int.not_lt.1 h1⟩

theorem rhe_err (m p : Int) (hp : 0 < p) :
    2 * (rhe m p * p - m) ≤ p ∧ -p ≤ 2 * (rhe m p * p - m) := by
  have h1 := Int.emod_add_mul_ediv m p
  have h2 := Int.emod_nonneg m (Int.ne_of_gt hp)
  have h3 := Int.emod_lt_of_pos m hp
  rcases rhe_cases m p with ⟨e, h⟩ | ⟨e, h⟩ <;> rw [e]
  · rw [Int.mul_comm (m / p)]; omega
  · rw [Int.add_mul, Int.one_mul, Int.mul_comm (m / p)]; omega

theorem rhe_unique (m p N : Int) (hp : 0 < p) (h1 : 2 * (m - N * p) < p) (h2 : -p < 2 * (m - N * p)) :
    rhe m p = N := by
  obtain ⟨r1, r2⟩ := rhe_err m p hp
  -- `rhe m p · p` and `N · p` are less than `p` apart
  rcases Int.lt_trichotomy (rhe m p) N with hlt | heq | hgt
  · have := Int.mul_le_mul_of_nonneg_right (show rhe m p + 1 ≤ N by omega) (Int.le_of_lt hp)
    rw [Int.add_mul, Int.one_mul] at this
    omega
  · exact heq
  · have := Int.mul_le_mul_of_nonneg_right (show N + 1 ≤ rhe m p by omega) (Int.le_of_lt hp)
    rw [Int.add_mul, Int.one_mul] at this
    omega

theorem rhe_one (m : Int) : rhe m 1 = m := by
  apply rhe_unique <;> omega

theorem lt_pow_bitLen (a : Nat) : a < 2 ^ bitLen a := by
  unfold bitLen
  split
  · rename_i h; subst h; decide
  · exact Nat.lt_log2_self

theorem le_of_bitLen {a : Nat} (h : 1 ≤ bitLen a) : 2 ^ (bitLen a - 1) ≤ a := by
  unfold bitLen at h ⊢
  split at h
  · omega
  · rename_i h0
    rw [if_neg h0]
    simpa using Nat.log2_self_le h0

theorem bitLen_le {a b : Nat} (h : a < 2 ^ b) : bitLen a ≤ b := by
  unfold bitLen
  split
  · exact Nat.zero_le b
  · exact (Nat.log2_lt ‹_›).2 h

theorem bitLen_ge {a b : Nat} (h : 2 ^ b ≤ a) : b + 1 ≤ bitLen a := by
  have ha : a ≠ 0 := Nat.ne_of_gt (Nat.lt_of_lt_of_le (Nat.pow_pos (by decide)) h)
  rw [bitLen, if_neg ha]
  exact Nat.succ_le_succ ((Nat.le_log2 ha).2 h)

theorem ofInt_exact (n : Int) (h : n.natAbs < 2 ^ 53) : ofInt n = { m := n, e := 0 } := by
  have hb := bitLen_le h
  unfold ofInt round53
  have hk : bitLen n.natAbs - 53 = 0 := by omega
  simp only [hk, Int.pow_zero, rhe_one]
  rfl

/-- `a` is within `n·2^-60` of `b`, relative to `b`. -/
def RelErr (n : Nat) (a b : Int) : Prop := 2 ^ 60 * (a - b).natAbs ≤ n * b.natAbs

theorem RelErr.refl (a : Int) : RelErr 0 a a := by simp [RelErr]

theorem RelErr.mono {n m : Nat} {a b : Int} (h : RelErr n a b) (hnm : n ≤ m) : RelErr m a b :=
  Nat.le_trans h (Nat.mul_le_mul_right _ hnm)

theorem RelErr.congr {n : Nat} {a a' b b' : Int} (h : RelErr n a b) (ha : a = a') (hb : b = b') : RelErr n a' b' :=
  ha ▸ hb ▸ h

theorem RelErr.mul_right {n : Nat} {a b : Int} (h : RelErr n a b) (c : Int) : RelErr n (a * c) (b * c) := by
  unfold RelErr at *
  rw [← Int.sub_mul, Int.natAbs_mul, Int.natAbs_mul, ← Nat.mul_assoc, ← Nat.mul_assoc]
  exact Nat.mul_le_mul_right _ h

theorem RelErr.of_mul_right {n : Nat} {a b c : Int} (hc : c ≠ 0) (h : RelErr n (a * c) (b * c)) : RelErr n a b := by
  unfold RelErr at *
  rw [← Int.sub_mul, Int.natAbs_mul, Int.natAbs_mul, ← Nat.mul_assoc, ← Nat.mul_assoc] at h
  exact Nat.le_of_mul_le_mul_right h (Int.natAbs_pos.2 hc)

theorem RelErr.neg {n : Nat} {a b : Int} (h : RelErr n a b) : RelErr n (-a) (-b) := by
  unfold RelErr at *
  rw [show -a - -b = -(a - b) by omega, Int.natAbs_neg, Int.natAbs_neg]
  exact h

theorem small_mul {n m : Nat} (hn : n ≤ 2 ^ 30) (hm : m ≤ 2 ^ 30) : n * m ≤ 2 ^ 60 :=
  Nat.le_trans (Nat.mul_le_mul hn hm) (by decide)

theorem natAbs_le_sub_add (x y : Int) : x.natAbs ≤ (x - y).natAbs + y.natAbs := by
  have := Int.natAbs_add_le (x - y) y
  rwa [Int.sub_add_cancel] at this

/-- An error of `n` units is at most a `k`-th of the value, as long as `n·k·ε ≤ 1`. -/
theorem RelErr.le_of_mul_le {n k : Nat} {a b : Int} (h : RelErr n a b) (hk : n * k ≤ 2 ^ 60) :
    k * (a - b).natAbs ≤ b.natAbs := by
  refine Nat.le_of_mul_le_mul_left (c := 2 ^ 60) ?_ (by decide)
  calc 2 ^ 60 * (k * (a - b).natAbs) = k * (2 ^ 60 * (a - b).natAbs) := Nat.mul_left_comm ..
    _ ≤ k * (n * b.natAbs) := Nat.mul_le_mul_left k h
    _ = n * k * b.natAbs := by rw [← Nat.mul_assoc, Nat.mul_comm k]
    _ ≤ 2 ^ 60 * b.natAbs := Nat.mul_le_mul_right _ hk

/-- `(1 + nε)(1 + mε) ≤ 1 + (n + m + 1)ε` as long as `n·m·ε ≤ 1`. -/
theorem RelErr.trans {n m : Nat} {a b c : Int} (h1 : RelErr n a b) (h2 : RelErr m b c) (hnm : n * m ≤ 2 ^ 60) :
    RelErr (n + m + 1) a c := by
  -- `2^60·|a-c| ≤ 2^60·|a-b| + 2^60·|b-c| ≤ n·|b| + m·|c|` and `n·|b| ≤ n·|b-c| + n·|c| ≤ |c| + n·|c|`
  have hac := natAbs_le_sub_add (a - c) (b - c)
  have hb := Nat.mul_le_mul_left n (natAbs_le_sub_add b c)
  have hbc := h2.le_of_mul_le (k := n) (by rwa [Nat.mul_comm])
  unfold RelErr at *
  grind

/-- `1 / (1 - nε) ≤ 1 + (n + 1)ε` as long as `n·(n + 1)·ε ≤ 1`. -/
theorem RelErr.symm {n : Nat} {a b : Int} (h : RelErr n a b) (hn : n * (n + 1) ≤ 2 ^ 60) : RelErr (n + 1) b a := by
  -- `(n+1)·|a-b| ≤ |b| ≤ |a-b| + |a|`, so `n·|a-b| ≤ |a|` and `2^60·|a-b| ≤ n·|b| ≤ n·|a-b| + n·|a| ≤ (n+1)·|a|`
  have hd := h.le_of_mul_le hn
  have hb := natAbs_le_sub_add b a
  have hnb := Nat.mul_le_mul_left n hb
  unfold RelErr at *
  rw [← Int.neg_sub b a, Int.natAbs_neg] at h hd
  grind

theorem RelErr.mul {n m : Nat} {a b c d : Int} (h1 : RelErr n a b) (h2 : RelErr m c d) (hnm : n * m ≤ 2 ^ 60) :
    RelErr (n + m + 1) (a * c) (b * d) := by
  have h3 := h2.mul_right b
  rw [Int.mul_comm c, Int.mul_comm d] at h3
  exact (h1.mul_right c).trans h3 hnm

theorem RelErr.bound {n : Nat} {a b : Int} (h : RelErr n a b) (k : Nat) (hk : n * 2 ^ k ≤ 2 ^ 60) :
    2 ^ k * (a - b) ≤ b.natAbs ∧ -(b.natAbs : Int) ≤ 2 ^ k * (a - b) := by
  have h1 : ((2 : Int) ^ k * (a - b)).natAbs ≤ b.natAbs := by
    rw [Int.natAbs_mul, Int.natAbs_pow]; exact h.le_of_mul_le hk
  generalize 2 ^ k * (a - b) = x at h1 ⊢
  omega

/-- A value within less than its own size of a positive one is positive. -/
theorem RelErr.pos {n : Nat} {a b : Int} (h : RelErr n a b) (hn : n < 2 ^ 60) (hb : 0 < b) : 0 < a := by
  have := Nat.mul_lt_mul_of_pos_right hn (show 0 < b.natAbs by omega)
  unfold RelErr at h
  omega

/-- The common core of the two roundings: half of `p` is at most `2^-53` of `|A|`. -/
theorem rhe_rel (A p : Int) (hp : 0 < p) (h : 2 ^ 52 * p ≤ A.natAbs) : RelErr 128 (rhe A p * p) A := by
  obtain ⟨r1, r2⟩ := rhe_err A p hp
  unfold RelErr
  generalize rhe A p * p = X at r1 r2 ⊢
  omega

theorem low_bits_le {a : Nat} (h : 53 ≤ bitLen a) : 2 ^ 52 * 2 ^ (bitLen a - 53) ≤ a := by
  have hlow := le_of_bitLen (a := a) (by omega)
  rwa [show bitLen a - 1 = 52 + (bitLen a - 53) by omega, Nat.pow_add] at hlow

theorem round53_err (A : Int) :
    RelErr 128 (rhe A (2 ^ (bitLen A.natAbs - 53)) * 2 ^ (bitLen A.natAbs - 53)) A := by
  by_cases h0 : bitLen A.natAbs - 53 = 0
  · rw [h0, Int.pow_zero, rhe_one, Int.mul_one]; exact (RelErr.refl A).mono (Nat.zero_le _)
  · exact rhe_rel A _ (Int.pow_pos (by decide)) (by exact_mod_cast low_bits_le (a := A.natAbs) (by omega))

theorem div_err (am : Int) (d : Nat) (ha : am ≠ 0) (hd : 0 < d) :
    let n := am * 2 ^ (64 + bitLen d)
    let k := bitLen (n.natAbs / d) - 53
    RelErr 128 (rhe n ((d : Int) * 2 ^ k) * 2 ^ k * d) n := by
  intro n k
  -- |n| ≥ 2^64 · d, so the quotient has at least 65 bits and 2^(52+k) · d ≤ |n|
  have hN : n.natAbs = am.natAbs * 2 ^ (64 + bitLen d) := by
    show (am * 2 ^ (64 + bitLen d)).natAbs = _
    rw [Int.natAbs_mul, Int.natAbs_pow]; rfl
  have hq : 2 ^ 64 ≤ n.natAbs / d := by
    rw [hN, Nat.le_div_iff_mul_le hd, Nat.pow_add]
    have h1 := Nat.mul_le_mul_left (2 ^ 64) (Nat.le_of_lt (lt_pow_bitLen d))
    have h2 : 2 ^ 64 * 2 ^ bitLen d ≤ am.natAbs * (2 ^ 64 * 2 ^ bitLen d) := Nat.le_mul_of_pos_left _ (by omega)
    omega
  have hlow : 2 ^ 52 * 2 ^ k * d ≤ n.natAbs :=
    Nat.le_trans (Nat.mul_le_mul_right _ (low_bits_le (by have := bitLen_ge hq; omega))) (Nat.div_mul_le_self n.natAbs d)
  have h := rhe_rel n ((d : Int) * 2 ^ k) (Int.mul_pos (by exact_mod_cast hd) (Int.pow_pos (by decide)))
    (by rw [Int.mul_comm (d : Int), ← Int.mul_assoc]; exact_mod_cast hlow)
  exact h.congr (by rw [Int.mul_assoc, Int.mul_comm (d : Int)]) rfl

/-- The quotient in fields: its exponent, and `c.m·2^k·b.m ≈ a.m·2^σ` with one rounding. -/
theorem divVal_err (a b : Val) (ha : a.m ≠ 0) (hb : 0 < b.m) :
    ∃ k : Nat, (divVal a b).e = a.e - b.e - (64 + bitLen b.m.natAbs : Nat) + k ∧
      RelErr 128 ((divVal a b).m * 2 ^ k * b.m) (a.m * 2 ^ (64 + bitLen b.m.natAbs)) := by
  have hd : ((b.m.natAbs : Nat) : Int) = b.m := Int.natAbs_of_nonneg (Int.le_of_lt hb)
  have h := div_err a.m b.m.natAbs ha (by omega)
  simp only [hd] at h
  simp only [divVal, if_neg ha, hd]
  exact ⟨_, rfl, h⟩

theorem Val.scaled_of_eq (v : Val) {s : Int} {j : Nat} (h : v.e + s = j) : v.scaled s = v.m * 2 ^ j := by
  simp [Val.scaled, h]

/-- `v` is within `n·2^-60` of `p / q` (relative to `p / q`), over the integers: `v.m·2^t·q` against `p·2^s` at scales
    with `t - s = v.e`.  One such pair is as good as any other (`Approx.relErr`). -/
def Approx (n : Nat) (v : Val) (p q : Int) : Prop :=
  ∃ s t : Nat, v.e + s = t ∧ RelErr n (v.m * 2 ^ t * q) (p * 2 ^ s)

theorem Approx.relErr {n : Nat} {v : Val} {p q : Int} (h : Approx n v p q) {s t : Nat} (hst : v.e + s = t) :
    RelErr n (v.m * 2 ^ t * q) (p * 2 ^ s) := by
  obtain ⟨s0, t0, h0, h⟩ := h
  -- both sides of `h` times `2^t` are both sides of the claim times `2^t0`
  have hp : p * 2 ^ s0 * 2 ^ t = p * 2 ^ s * 2 ^ t0 := by
    rw [Int.mul_assoc, Int.mul_assoc, ← Int.pow_add, ← Int.pow_add, show s0 + t = s + t0 by omega]
  exact RelErr.of_mul_right (c := 2 ^ t0) (Int.ne_of_gt (Int.pow_pos (by decide)))
    ((h.mul_right (2 ^ t)).congr (by ac_rfl) hp)

theorem Approx.scaled {n : Nat} {v : Val} {p q : Int} (h : Approx n v p q) (s : Nat) (hs : 0 ≤ v.e + s) :
    RelErr n (v.scaled s * q) (p * 2 ^ s) := by
  rw [v.scaled_of_eq (j := (v.e + s).toNat) (by omega)]
  exact h.relErr (by omega)

theorem Approx.mono {n m : Nat} {v : Val} {p q : Int} (h : Approx n v p q) (hnm : n ≤ m) : Approx m v p q :=
  let ⟨s, t, hst, h⟩ := h; ⟨s, t, hst, h.mono hnm⟩

theorem Approx.cancel {n : Nat} {v : Val} {p q c : Int} (h : Approx n v (p * c) (q * c)) (hc : c ≠ 0) :
    Approx n v p q := by
  obtain ⟨s, t, hst, h⟩ := h
  rw [← Int.mul_assoc, Int.mul_right_comm p] at h
  exact ⟨s, t, hst, RelErr.of_mul_right hc h⟩

theorem approx_ofInt (n : Int) (h : n.natAbs < 2 ^ 53) : Approx 0 (ofInt n) n 1 := by
  rw [ofInt_exact n h]
  exact ⟨0, 0, rfl, by simpa using RelErr.refl n⟩

theorem approx_cLightMs : Approx 128 cLightMs 299792458 1000 := ⟨34, 0, rfl, by unfold RelErr; decide⟩

theorem approx_c0001 : Approx 128 c0001 1 10000 := ⟨66, 0, rfl, by unfold RelErr; decide⟩

theorem Approx.neg {n : Nat} {v : Val} {p q : Int} (h : Approx n v p q) : Approx n (F64.neg v) (-p) q := by
  obtain ⟨s, t, hst, h⟩ := h
  refine ⟨s, t, hst, ?_⟩
  show RelErr n (-v.m * 2 ^ t * q) (-p * 2 ^ s)
  rw [Int.neg_mul, Int.neg_mul, Int.neg_mul]
  exact h.neg

theorem Approx.scale2 {n : Nat} {v : Val} {p q : Int} (h : Approx n v p q) (i : Nat) :
    Approx n (F64.scale2 v (-i)) p (q * 2 ^ i) := by
  obtain ⟨s, t, hst, h⟩ := h
  have hst' : v.e + -(i : Int) + (s + i : Nat) = t := by omega
  refine ⟨s + i, t, hst', ?_⟩
  rw [Int.pow_add, ← Int.mul_assoc, ← Int.mul_assoc]
  exact h.mul_right (2 ^ i)

theorem Approx.round53 {n : Nat} {v : Val} {p q : Int} (h : Approx n v p q) (hn : n ≤ 2 ^ 30) :
    Approx (n + 129) (F64.round53 v) p q := by
  obtain ⟨s, t, hst, h⟩ := h
  refine ⟨s, bitLen v.m.natAbs - 53 + t, by simp only [F64.round53]; omega, ?_⟩
  have h' := (((round53_err v.m).mul_right (2 ^ t)).mul_right q).trans h (small_mul (by omega) hn)
  rw [Int.pow_add, ← Int.mul_assoc]
  exact h'.mono (by omega)

theorem Approx.prod {n m : Nat} {a b : Val} {p q p' q' : Int} (ha : Approx n a p q) (hb : Approx m b p' q')
    (hnm : n * m ≤ 2 ^ 60) : Approx (n + m + 1) { m := a.m * b.m, e := a.e + b.e } (p * p') (q * q') := by
  obtain ⟨s, t, hst, ha⟩ := ha
  obtain ⟨s', t', hst', hb⟩ := hb
  refine ⟨s + s', t + t', by simp only []; omega, ?_⟩
  simp only [Int.pow_add]
  exact (ha.mul hb hnm).congr (by ac_rfl) (by ac_rfl)

theorem Approx.mul {n m : Nat} {a b : Val} {p q p' q' : Int} (ha : Approx n a p q) (hb : Approx m b p' q')
    (hn : n ≤ 2 ^ 20) (hm : m ≤ 2 ^ 20) : Approx (n + m + 130) (F64.mul a b) (p * p') (q * q') := by
  exact ((ha.prod hb (small_mul (by omega) (by omega))).round53 (by omega)).mono (by omega)

theorem Approx.m_pos {n : Nat} {v : Val} {p q : Int} (h : Approx n v p q) (hn : n < 2 ^ 60) (hp : 0 < p)
    (hq : 0 < q) : 0 < v.m := by
  obtain ⟨s, t, _, h⟩ := h
  have h' := h.pos hn (Int.mul_pos hp (Int.pow_pos (by decide)))
  rw [Int.mul_assoc] at h'
  exact Int.pos_of_mul_pos_left h' (Int.mul_pos (Int.pow_pos (by decide)) hq)

theorem Approx.m_ne_zero {n : Nat} {v : Val} {p q : Int} (h : Approx n v p q) (hn : n < 2 ^ 60) (hp : p ≠ 0)
    (hq : 0 < q) : v.m ≠ 0 := by
  rcases Int.lt_or_gt_of_ne hp with hneg | hpos
  · have := h.neg.m_pos hn (by omega) hq
    simp only [F64.neg] at this
    omega
  · exact Int.ne_of_gt (h.m_pos hn hpos hq)

/-- `fl(a / b)`: the divisor's error turned round (`symm`), one rounding (`divVal_err`), the dividend's error. -/
theorem Approx.divVal {n m : Nat} {a b : Val} {p q p' q' : Int} (ha : Approx n a p q) (hb : Approx m b p' q')
    (hp : p ≠ 0) (hq : 0 < q) (hp' : 0 < p') (hq' : 0 < q') (hn : n ≤ 2 ^ 20) (hm : m ≤ 2 ^ 20) :
    Approx (n + m + 131) (F64.divVal a b) (p * q') (q * p') := by
  obtain ⟨k, he, hc⟩ := divVal_err a b (ha.m_ne_zero (by omega) hp hq) (hb.m_pos (by omega) hp' hq')
  obtain ⟨s, t, hst, ha⟩ := ha
  obtain ⟨s', t', hst', hb⟩ := hb
  generalize 64 + bitLen b.m.natAbs = σ at he hc
  refine ⟨s + t' + σ, t + s' + k, by omega, ?_⟩
  -- with `c`, `a`, `b` the mantissas and `u = c·2^k·(2^t·q)`:
  -- `u·(p'·2^s') ≈ u·(b·2^t'·q') = (c·2^k·b)·… ≈ (a·2^σ)·… = (a·2^t·q)·… ≈ (p·2^s)·…`
  have h1 := (hb.symm (small_mul (by omega) (by omega))).mul_right ((F64.divVal a b).m * 2 ^ k * (2 ^ t * q))
  have h2 := hc.mul_right (2 ^ t * q * (2 ^ t' * q'))
  have h3 := ha.mul_right (2 ^ σ * (2 ^ t' * q'))
  have h4 := (h1.trans (h2.congr (by ac_rfl) rfl) (small_mul (by omega) (by omega))).trans (h3.congr (by ac_rfl) rfl)
    (small_mul (by omega) (by omega))
  simp only [Int.pow_add]
  exact (h4.congr (by ac_rfl) (by ac_rfl)).mono (by omega)

theorem bitLen_10000 : bitLen ((10000 : Nat) : Int).natAbs = 14 := by decide

theorem divConst_eq (a : Val) (d : Nat) : divConst a d = F64.divVal a { m := d, e := 0 } := by
  simp [divConst, F64.divVal]

theorem Approx.divConst {n : Nat} {a : Val} {p q : Int} (ha : Approx n a p q) (d : Nat) (hp : p ≠ 0) (hq : 0 < q)
    (hd : 0 < d) (hn : n ≤ 2 ^ 20) : Approx (n + 131) (F64.divConst a d) p (q * d) := by
  have hb : Approx 0 { m := d, e := 0 } d 1 := ⟨0, 0, rfl, by simpa using RelErr.refl (d : Int)⟩
  have h := ha.divVal hb hp hq (by omega) (by decide) hn (by decide)
  rwa [Int.mul_one, ← divConst_eq] at h

/-- **Display exactness.**  For `n` of at most 38 bits, `float64(n) * 0.0001` printed with `%.4f` is exactly
    `n` units of 0.0001: both roundings (of the constant 0.0001 and of the product) together move the value by
    at most 258·2^-60 of it, less than 2^-27, far below the 0.00005 that would change the fourth decimal. -/
theorem scaled_display_exact (n : Int) (h : n.natAbs < 2 ^ 38) :
    fixed4 (mul (ofInt n) c0001) = n := by
  have hA := (approx_ofInt n (by omega)).mul approx_c0001 (by decide) (by decide)
  -- the product has at most 91 bits, of which at most 38 are rounded away
  have he : (mul (ofInt n) c0001).e ≤ -28 := by
    have h1 : (n * c0001.m).natAbs < 2 ^ 91 := by
      rw [Int.natAbs_mul]
      exact Nat.lt_of_lt_of_le (Nat.mul_lt_mul_of_pos_right h (by decide)) (by decide)
    have := bitLen_le h1
    rw [ofInt_exact n (by omega)]
    simp only [mul, round53, c0001] at this ⊢
    omega
  generalize mul (ofInt n) c0001 = v at *
  have h' := hA.relErr (s := (-v.e).toNat) (t := 0) (by omega)
  rw [Int.pow_zero, Int.mul_one, Int.mul_one] at h'
  unfold fixed4
  rw [if_neg (by omega)]
  have hP : (0 : Int) < 2 ^ (-v.e).toNat := Int.pow_pos (by omega)
  have hZ : (n * 2 ^ (-v.e).toNat).natAbs < 2 ^ 38 * (2 ^ (-v.e).toNat : Int).natAbs := by
    rw [Int.natAbs_mul]; exact Nat.mul_lt_mul_of_pos_right h (by omega)
  unfold RelErr at h'
  apply rhe_unique _ _ _ hP <;> omega

/-! The C08 statements are at fixed scales (`2^63`, `2^78`, `2^128`, `2^141`).  That these are large enough for
`Approx.scaled` (`0 ≤ v.e + s`) needs lower bounds for the exponents of the results. -/

theorem mul_e_ge (a b : Val) : a.e + b.e ≤ (mul a b).e := by
  simp only [mul, round53]; omega

theorem divVal_e_ge (a b : Val) (ha : a.m ≠ 0) : a.e - b.e - (64 + bitLen b.m.natAbs : Nat) ≤ (divVal a b).e := by
  simp only [divVal, if_neg ha]; omega

/-- `fl(x / 2^i · 299792.458)` for an integer `x`: two roundings (the constant and the product). -/
theorem approx_lightMs (x : Int) (hx : x.natAbs < 2 ^ 53) (i : Nat) :
    Approx 258 (mul (scale2 (ofInt x) (-i)) cLightMs) (x * 299792458) (2 ^ i * 1000) := by
  have h := ((approx_ofInt x hx).scale2 i).mul approx_cLightMs (by decide) (by decide)
  rwa [Int.one_mul] at h

theorem lightMs_e_ge (x : Int) (hx : x.natAbs < 2 ^ 53) (i : Int) : i - 34 ≤ (mul (scale2 (ofInt x) i) cLightMs).e := by
  have h := mul_e_ge (scale2 (ofInt x) i) cLightMs
  have h1 : (scale2 (ofInt x) i).e = i := by rw [ofInt_exact x hx]; simp [scale2]
  have h2 : cLightMs.e = -34 := rfl
  omega

/-- **Range in metres** `fl(S/2^29 · 299792.458)`, at the scale `2^63` at which it is an integer: two roundings. -/
theorem rangeMetres_err (S : Nat) (hS : S < 2 ^ 53) :
    RelErr 258 (1000 * (mul (scale2 (ofInt S) (-29)) cLightMs).scaled 63) (S * 299792458 * 2 ^ 34) := by
  have he := lightMs_e_ge S (by omega) (-29)
  have h : RelErr 258 ((mul (scale2 (ofInt S) (-29)) cLightMs).scaled 63 * _) _ :=
    (approx_lightMs S (by omega) 29).scaled 63 (by show 0 ≤ (mul (scale2 (ofInt S) (-29)) cLightMs).e + 63; omega)
  refine RelErr.of_mul_right (c := 2 ^ 29) (by decide) (h.congr ?_ ?_)
  · rw [Int.mul_comm _ 1000, Int.mul_left_comm, Int.mul_assoc]
  · rw [Int.mul_assoc _ (2 ^ 34), ← Int.pow_add]

/-- **Range rate in m/s** `fl(A / 10000)`, at the scale `2^78 = 2^(64 + bitLen 10000)` of the quotient: one rounding.
    (`Approx.divConst` would give 131 units; the property claims the 128 of a single rounding.) -/
theorem rate_err (A : Int) (hA : A.natAbs < 2 ^ 53) (hA0 : A ≠ 0) :
    RelErr 128 (10000 * (divConst (ofInt A) 10000).scaled 78) (A * 2 ^ 78) := by
  rw [ofInt_exact A hA, divConst_eq]
  obtain ⟨k, he, h⟩ := divVal_err { m := A, e := 0 } { m := (10000 : Nat), e := 0 } hA0 (by decide)
  simp only [bitLen_10000] at he h
  rw [Val.scaled_of_eq _ (j := k) (by omega), Int.mul_comm]
  exact h

/-- The range rate as an operand (of the Doppler), with the 131 units of `Approx.divConst`. -/
theorem approx_rate (A : Int) (hA : A.natAbs < 2 ^ 53) (hA0 : A ≠ 0) :
    Approx 131 (divConst (ofInt A) 10000) A 10000 := by
  have h := (approx_ofInt A hA).divConst 10000 hA0 (by decide) (by decide) (by decide)
  rwa [Int.one_mul] at h

theorem rate_e_ge (A : Int) (hA : A.natAbs < 2 ^ 53) (hA0 : A ≠ 0) : -78 ≤ (divConst (ofInt A) 10000).e := by
  have h := divVal_e_ge { m := A, e := 0 } { m := (10000 : Nat), e := 0 } hA0
  simp only [bitLen_10000] at h
  rw [ofInt_exact A hA, divConst_eq]
  omega

theorem approx_wavelength (f : Nat) (hf1 : 1 ≤ f) (hf : f < 2 ^ 53) : Approx 131 (wavelength f) 299792458 f := by
  have h := (approx_ofInt 299792458 (by decide)).divVal (approx_ofInt f (by omega)) (by decide) (by decide) (by omega)
    (by decide) (by decide) (by decide)
  rwa [Int.mul_one, Int.one_mul] at h

/-- **Phase range in cycles** `fl(fl(S/2^31 · 299792.458) / wavelength)`: within `520·2^-60 < 2^-50` of
    `S · f / (2^31 · 1000)`, for every frequency (four roundings in all). -/
theorem approx_phaseCycles (S f : Nat) (hS1 : 1 ≤ S) (hS : S < 2 ^ 53) (hf1 : 1 ≤ f) (hf : f < 2 ^ 53) :
    Approx 520 (phaseCycles S f) (S * f) (2 ^ 31 * 1000) := by
  have h := (approx_lightMs S (by omega) 31).divVal (approx_wavelength f hf1 hf) (Int.mul_ne_zero (by omega) (by decide))
    (by decide) (by decide) (by omega) (by decide) (by decide)
  rw [Int.mul_right_comm] at h
  exact h.cancel (by decide)

/-- **Doppler in Hz** `-fl(fl(A/10000) / wavelength)`: within `393·2^-60 < 2^-50` of `-(A/10000) · f / 299792458`,
    for every frequency (three roundings). -/
theorem approx_dopplerHz (A : Int) (f : Nat) (hA : A.natAbs < 2 ^ 53) (hA0 : A ≠ 0) (hf1 : 1 ≤ f) (hf : f < 2 ^ 53) :
    Approx 393 (dopplerHz A f) (-(A * f)) (10000 * 299792458) :=
  ((approx_rate A hA hA0).divVal (approx_wavelength f hf1 hf) hA0 (by decide) (by decide) (by omega) (by decide)
    (by decide)).neg

/-- The carrier frequencies (Hz) of the signal tables. -/
def carrierFrequencies : List Nat :=
  [1575420000, 1227600000, 1176450000, 1278750000, 1207140000, 1191795000, 1602000000, 1246000000, 1561098000, 1268520000]

/-- The ten frequencies are in range, and their wavelengths (53 bits, exponent -55 or -54) are large enough for
    `2^128` (cycles) resp. `2^141` (Doppler) times a result to be an integer, by `phaseCycles_e_ge`, `dopplerHz_e_ge`. -/
theorem carrier_wavelengths : ∀ f ∈ carrierFrequencies,
    1 ≤ f ∧ f < 2 ^ 53 ∧ (wavelength f).e + bitLen (wavelength f).m.natAbs ≤ -1 := by decide +kernel

theorem phaseCycles_e_ge (S f : Nat) (hS1 : 1 ≤ S) (hS : S < 2 ^ 53) :
    -129 - ((wavelength f).e + bitLen (wavelength f).m.natAbs) ≤ (phaseCycles S f).e := by
  have hX : Approx 258 (mul (scale2 (ofInt S) (-31)) cLightMs) _ _ := approx_lightMs S (by omega) 31
  have h1 := divVal_e_ge _ (wavelength f) (hX.m_ne_zero (by decide) (Int.mul_ne_zero (by omega) (by decide)) (by decide))
  have h2 := lightMs_e_ge S (by omega) (-31)
  unfold phaseCycles
  omega

theorem dopplerHz_e_ge (A : Int) (f : Nat) (hA : A.natAbs < 2 ^ 53) (hA0 : A ≠ 0) :
    -142 - ((wavelength f).e + bitLen (wavelength f).m.natAbs) ≤ (dopplerHz A f).e := by
  have h1 := divVal_e_ge _ (wavelength f) ((approx_rate A hA hA0).m_ne_zero (by decide) hA0 (by decide))
  have h2 := rate_e_ge A hA hA0
  show _ ≤ (divVal (divConst (ofInt A) 10000) (wavelength f)).e
  omega

end Ntrip.F64
