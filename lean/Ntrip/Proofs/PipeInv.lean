import Ntrip.Model.Pipeline
/-! The invariant of the pipeline transition system, its preservation by every step, and the safety
    properties it gives in every reachable state, under every schedule. -/
namespace Ntrip.Pipe
variable {M : Type}

/-- A framer that emits nothing before it has seen the close and everything then meets the
    assumptions `prod_le` and `prod_mono` of `Cfg.WF`, whatever the output is. -/
theorem flush_timing (n : Nat) :
    (∀ b : Bool, (if b then n else 0) ≤ n) ∧
    ∀ b b' : Bool, (b = true → b' = true) → (if b then n else 0) ≤ if b' then n else 0 :=
  ⟨fun | true => Nat.le_refl n | false => Nat.zero_le n,
   fun | false, _, _ => Nat.zero_le _ | true, true, _ => Nat.le_refl n | true, false, h => nomatch h rfl⟩

theorem cnt_none {s : PS M} (h : s.dHold = none) (i : Nat) : cnt s i = s.fEmit := by
  simp only [cnt, h]

theorem cnt_some {s : PS M} {j : Nat} (h : s.dHold = some j) (i : Nat) :
    cnt s i = if j ≤ i then s.fEmit - 1 else s.fEmit := by
  simp only [cnt, h]

theorem cnt_le (s : PS M) (i : Nat) : cnt s i ≤ s.fEmit := by
  cases h : s.dHold with
  | none => exact Nat.le_of_eq (cnt_none h i)
  | some j => rw [cnt_some h]; split; exact Nat.sub_le _ _; exact Nat.le_refl _

theorem cnt_congr (s s' : PS M) (i : Nat) (h1 : s'.dHold = s.dHold) (h2 : s'.fEmit = s.fEmit) : cnt s' i = cnt s i := by
  unfold cnt; rw [h1, h2]

theorem succ_le_iff_of_ne {i j : Nat} (h : i ≠ j) : j + 1 ≤ i ↔ j ≤ i :=
  ⟨Nat.le_of_lt, (Nat.lt_of_le_of_ne · h.symm)⟩

theorem lt_succ_iff_of_ne {i n : Nat} (h : i ≠ n) : i < n + 1 ↔ i < n :=
  ⟨fun h' => Nat.lt_of_le_of_ne (Nat.le_of_lt_succ h') h, Nat.lt_succ_of_lt⟩

/-- Each fact is stated once, in the form that fewest steps disturb (that a closed consumer channel
    means the fan-out has returned is not a field but `Inv.closed_done`, from `ch` and `mi0`): a step
    re-proves only the fields whose premise it can make true or whose conclusion it changes.
    `cons` is what each consumer has been handed, wherever it is now. -/
structure Inv (c : Cfg M) (s : PS M) : Prop where
  noPanic : s.panic = false
  rLe : s.rSent ≤ c.nBytes
  fr : s.fRecv = s.rSent
  bcl : s.bClosed = true → s.rSent = c.nBytes
  fsc : s.fSeenClosed = true → s.bClosed = true
  fe : s.fEmit ≤ c.produced s.fRecv s.fSeenClosed
  mcl : s.mClosed = true → s.fEmit = c.out.length
  dh : ∀ j, s.dHold = some j → j ≤ c.k ∧ 1 ≤ s.fEmit ∧ s.dDone = false
  dd : s.dDone = true → s.mClosed = true
  cons : ∀ i, i < c.k → c.isNil i = false →
    s.handled i ++ (s.wCur i).toList ++ s.buf i = c.out.take (cnt s i)
  wd : ∀ i, s.wDone i = true → s.dDone = true ∧ s.buf i = [] ∧ s.wCur i = none
  ch : ∀ i, s.chClosed i = true ↔ i < s.mainIdx ∧ c.closes i = true
  mi : s.mainIdx ≤ c.k
  mi0 : 0 < s.mainIdx → s.dDone = true
  mr : s.mainReturned = true → s.mainIdx = c.k ∧ s.dDone = true ∧
    (c.waits = true → ∀ i, i < c.k → c.isNil i = false → s.wDone i = true)

theorem inv_init (c : Cfg M) : Inv c (init M) := by
  constructor <;> simp [init, cnt]

namespace Inv
variable {c : Cfg M} {s : PS M}

theorem closed_done (h : Inv c s) {i : Nat} (hc : s.chClosed i = true) : s.dDone = true :=
  h.mi0 (Nat.zero_lt_of_lt ((h.ch i).1 hc).1)

theorem hold_open (h : Inv c s) {j : Nat} (hd : s.dHold = some j) (i : Nat) : s.chClosed i = false :=
  Bool.eq_false_iff.2 fun hc => nomatch (h.dh j hd).2.2.symm.trans (h.closed_done hc)

theorem main_open (h : Inv c s) : s.chClosed s.mainIdx = false :=
  Bool.eq_false_iff.2 fun hc => Nat.lt_irrefl _ ((h.ch _).1 hc).1

theorem done_hold (h : Inv c s) (hd : s.dDone = true) : s.dHold = none := by
  cases hh : s.dHold with
  | none => rfl
  | some j => exact nomatch (h.dh j hh).2.2.symm.trans hd

theorem cons_handed (h : Inv c s) {j : Nat} {m : M} (hd : s.dHold = some j) (hj : j < c.k)
    (hn : c.isNil j = false) (hget : c.out[s.fEmit - 1]? = some m) :
    s.handled j ++ (s.wCur j).toList ++ s.buf j ++ [m] = c.out.take s.fEmit := by
  have e : c.out.take (s.fEmit - 1 + 1) = c.out.take (s.fEmit - 1) ++ [m] := by
    rw [List.take_add_one, hget]; rfl
  rw [Nat.sub_add_cancel (h.dh j hd).2.1] at e
  rw [e, h.cons j hj hn, cnt_some hd, if_pos (Nat.le_refl j)]

/-- The steps in which the fan-out turns from consumer `j` to the next, having touched at most `j`'s
    channel and hand. -/
theorem advance (h : Inv c s) {j : Nat} (hd : s.dHold = some j) (hj : j < c.k)
    (buf : Nat → List M) (wCur : Nat → Option M)
    (ho : ∀ i, i ≠ j → buf i = s.buf i ∧ wCur i = s.wCur i)
    (hj' : c.isNil j = false → s.handled j ++ (wCur j).toList ++ buf j = c.out.take s.fEmit) :
    Inv c { s with buf := buf, wCur := wCur, dHold := some (j + 1) } :=
  have ⟨_, d2, d3⟩ := h.dh j hd
  { h with
    dh := fun _ e => by cases e; exact ⟨hj, d2, d3⟩
    wd := fun i hi => nomatch d3.symm.trans (h.wd i hi).1
    cons := fun i hi hni => by
      by_cases hij : i = j
      · subst hij; simpa [cnt, Nat.not_succ_le_self] using hj' hni
      · simpa only [cnt, hd, succ_le_iff_of_ne hij, ho i hij] using h.cons i hi hni }

/-- The steps of writer `j`: only its own channel, hand, record and end flag change. -/
theorem writer (h : Inv c s) (j : Nat) (buf : Nat → List M) (wCur : Nat → Option M)
    (handled : Nat → List M) (wDone : Nat → Bool)
    (ho : ∀ i, i ≠ j →
      buf i = s.buf i ∧ wCur i = s.wCur i ∧ handled i = s.handled i ∧ wDone i = s.wDone i)
    (hsent : handled j ++ (wCur j).toList ++ buf j = s.handled j ++ (s.wCur j).toList ++ s.buf j)
    (hend : wDone j = true → s.dDone = true ∧ buf j = [] ∧ wCur j = none)
    (hstay : s.wDone j = true → wDone j = true) :
    Inv c { s with buf := buf, wCur := wCur, handled := handled, wDone := wDone } :=
  { h with
    cons := fun i hi hni => by
      by_cases hij : i = j
      · subst hij; exact hsent.trans (h.cons i hi hni)
      · obtain ⟨e1, e2, e3, _⟩ := ho i hij
        simpa only [cnt, e1, e2, e3] using h.cons i hi hni
    wd := fun i hi => by
      by_cases hij : i = j
      · subst hij; exact hend hi
      · obtain ⟨e1, e2, _, e4⟩ := ho i hij
        simpa only [e1, e2] using h.wd i (e4 ▸ hi)
    mr := fun hr => ⟨(h.mr hr).1, (h.mr hr).2.1, fun hw i hi hni => by
      have := (h.mr hr).2.2 hw i hi hni
      by_cases hij : i = j
      · subst hij; exact hstay this
      · exact (ho i hij).2.2.2.trans this⟩ }
end Inv

theorem inv_step (c : Cfg M) (hc : c.WF) (s s' : PS M) (h : Inv c s) (hs : Step c s s') : Inv c s' := by
  cases hs with
  | rSend hp hlt hb hw =>
    exact { h with
      rLe := hlt
      fr := congrArg (· + 1) h.fr
      bcl := fun hb' => nomatch hb.symm.trans hb'
      fe := Nat.le_trans h.fe (hc.prod_mono _ _ _ _ (Nat.le_succ _) id) }
  | rClose hp he hb => exact { h with bcl := fun _ => he, fsc := fun _ => rfl }
  | fSeeClosed hp hb hw =>
    exact { h with
      fsc := fun _ => hb
      fe := Nat.le_trans h.fe (hc.prod_mono _ _ _ _ (Nat.le_refl _) fun _ => rfl) }
  | fSend hp hlt hm hd hdd =>
    exact { h with
      fe := hlt
      mcl := fun hm' => nomatch hm.symm.trans hm'
      dh := fun _ e => by cases e; exact ⟨Nat.zero_le _, Nat.succ_pos _, hdd⟩
      cons := fun i hi hn => by simpa [cnt, hd] using h.cons i hi hn }
  | fClose hp hsc he hm =>
    exact { h with
      mcl := fun _ => by rw [he, h.fr, h.bcl (h.fsc hsc), hc.prod_final]
      dd := fun _ => rfl }
  | dSeeClosed hp hm hd hdd =>
    exact { h with
      dh := fun j hj => nomatch hd.symm.trans hj
      dd := fun _ => hm
      wd := fun i hi => ⟨rfl, (h.wd i hi).2⟩
      mi0 := fun _ => rfl
      mr := fun hr => ⟨(h.mr hr).1, rfl, (h.mr hr).2.2⟩ }
  | dSkipNil j hp hd hj hn =>
    exact h.advance hd hj s.buf s.wCur (fun _ _ => ⟨rfl, rfl⟩) fun hn' => nomatch hn.symm.trans hn'
  | dSendBuf j m hp hd hj hn hcl hlen hget =>
    exact h.advance hd hj _ s.wCur (fun i hi => ⟨upd_other hi, rfl⟩) fun _ => by
      simpa using h.cons_handed hd hj hn hget
  | dSendRv j m hp hd hj hn hcl hcap hcur hwd hbuf hget =>
    exact h.advance hd hj s.buf _ (fun i hi => ⟨rfl, upd_other hi⟩) fun _ => by
      simpa [hcur, hbuf] using h.cons_handed hd hj hn hget
  | dSendClosed j hp hd hj hn hcl => exact nomatch (h.hold_open hd j).symm.trans hcl
  | dNext hp hd =>
    exact { h with
      dh := fun j hj => nomatch hj
      cons := fun i hi hn => by simpa [cnt, hd, Nat.not_le_of_lt hi] using h.cons i hi hn }
  | mainClose hp hdd hlt hcl hn hch =>
    exact { h with
      ch := fun i => by
        by_cases hij : i = s.mainIdx
        · subst hij; simp [hcl]
        · simpa only [upd_other hij, lt_succ_iff_of_ne hij] using h.ch i
      mi := hlt
      mi0 := fun _ => hdd
      mr := fun hr => absurd (h.mr hr).1 (Nat.ne_of_lt hlt) }
  | mainCloseBad hp hdd hlt hcl hbad =>
    rcases hbad with hnil | hch
    · exact nomatch (hc.closes_nonnil _ hcl).symm.trans hnil
    · exact nomatch h.main_open.symm.trans hch
  | mainSkip hp hdd hlt hcl =>
    exact { h with
      ch := fun i => (h.ch i).trans <| and_congr_left fun hci =>
        have : i ≠ s.mainIdx := fun e => nomatch (e ▸ hcl : c.closes i = false).symm.trans hci
        (lt_succ_iff_of_ne this).symm
      mi := hlt
      mi0 := fun _ => hdd
      mr := fun hr => absurd (h.mr hr).1 (Nat.ne_of_lt hlt) }
  | mainReturn hp hdd he hr hw => exact { h with mr := fun _ => ⟨he, hdd, hw⟩ }
  | wRecv j m rest hp hj hn hwd hcur hbuf =>
    exact h.writer j _ _ s.handled s.wDone
      (fun i hi => ⟨upd_other hi, upd_other hi, rfl, rfl⟩)
      (by simp [hcur, hbuf]) (fun hd => nomatch hwd.symm.trans hd) id
  | wFinish j m hp hj hn hcur =>
    exact h.writer j s.buf _ _ s.wDone
      (fun i hi => ⟨rfl, upd_other hi, upd_other hi, rfl⟩)
      (by simp [hcur]) (fun hd => nomatch hcur.symm.trans (h.wd j hd).2.2) id
  | wSeeClosed j hp hj hn hwd hcur hbuf hcl =>
    exact h.writer j s.buf s.wCur s.handled _ (fun i hi => ⟨rfl, rfl, rfl, upd_other hi⟩)
      rfl (fun _ => ⟨h.closed_done hcl, hbuf, hcur⟩) fun _ => upd_same ..

theorem reach_inv (c : Cfg M) (hc : c.WF) {s : PS M} (h : Reach c s) : Inv c s := by
  induction h with
  | init => exact inv_init c
  | step _ hs ih => exact inv_step c hc _ _ ih hs

/-- No reachable state has panicked: no send on a closed channel, no double close, no close of
    a nil channel — under every schedule. -/
theorem no_panic (c : Cfg M) (hc : c.WF) {s : PS M} (h : Reach c s) : s.panic = false :=
  (reach_inv c hc h).noPanic

theorem handled_prefix (c : Cfg M) (hc : c.WF) {s : PS M} (h : Reach c s) (i : Nat) (hi : i < c.k)
    (hn : c.isNil i = false) : s.handled i <+: c.out := by
  have hp : s.handled i <+: c.out.take (cnt s i) := by
    rw [← (reach_inv c hc h).cons i hi hn, List.append_assoc]; exact List.prefix_append _ _
  exact hp.trans (List.take_prefix _ _)

/-- When `HandleMessagesUntilEOF` has returned, each non-nil consumer has been sent exactly the
    sequential output (handled, in hand, or still in its channel). -/
theorem fanout_returned_all_sent (c : Cfg M) (hc : c.WF) {s : PS M} (h : Reach c s) (hd : s.dDone = true)
    (i : Nat) (hi : i < c.k) (hn : c.isNil i = false) :
    s.handled i ++ (s.wCur i).toList ++ s.buf i = c.out := by
  have hI := reach_inv c hc h
  rw [hI.cons i hi hn, cnt_none (hI.done_hold hd), hI.mcl (hI.dd hd), List.take_length]

theorem done_all_handled (c : Cfg M) (hc : c.WF) {s : PS M} (h : Reach c s) (i : Nat) (hi : i < c.k)
    (hn : c.isNil i = false) (hd : s.wDone i = true) : s.handled i = c.out := by
  obtain ⟨d, hb, hw⟩ := (reach_inv c hc h).wd i hd
  simpa [hb, hw] using fanout_returned_all_sent c hc h d i hi hn

/-- **When main has returned (and it waits), every writer has handled every message** — for
    every capacity, every message list, every schedule, every writer latency. -/
theorem returned_all_written (c : Cfg M) (hc : c.WF) (hw : c.waits = true) {s : PS M} (h : Reach c s)
    (hr : s.mainReturned = true) (i : Nat) (hi : i < c.k) (hn : c.isNil i = false) : s.handled i = c.out :=
  done_all_handled c hc h i hi hn (((reach_inv c hc h).mr hr).2.2 hw i hi hn)
end Ntrip.Pipe
