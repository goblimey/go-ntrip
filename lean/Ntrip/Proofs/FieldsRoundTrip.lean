import Ntrip.Proofs.Encode
import Ntrip.Spec.Layout
/-! Postconditions for the decoders' outcomes (`Res.Safe`: no panic, an error allowed), then the checked
    readers over a layout, for one field, a sequence of fields (`readFields`) and field-major arrays
    (`readColumn`, `readColumns`): when they succeed, and what they return for encoded values. -/
namespace Ntrip

@[simp] theorem Res.ok_bind {α β : Type} (a : α) (f : α → Res β) : (Res.ok a >>= f) = f a := rfl

/-- `r` does not panic, and if it succeeds its result satisfies `Q` (a postcondition; an error
    outcome is allowed). -/
def Res.Safe {α : Type} (r : Res α) (Q : α → Prop) : Prop :=
  match r with
  | .ok a => Q a
  | .err _ => True
  | .panic => False

section
variable {α β : Type} {r : Res α} {Q : α → Prop}

theorem Res.Safe.ne_panic (h : r.Safe Q) : r ≠ .panic := by
  rintro rfl; exact h

theorem Res.Safe.of_ok {a : α} (h : r.Safe Q) (e : r = .ok a) : Q a := by
  subst e; exact h

theorem Res.Safe.bind {f : α → Res β} {P : α → Prop} {Q : β → Prop}
    (h : r.Safe P) (hf : ∀ a, r = .ok a → P a → (f a).Safe Q) : (r >>= f).Safe Q := by
  cases r with
  | ok a => exact hf a rfl h
  | err e => trivial
  | panic => exact h

theorem Res.Safe.ite_err {c : Prop} [Decidable c] {e : MErr}
    (h : ¬c → r.Safe Q) : (if c then .err e else r).Safe Q := by
  split
  · trivial
  · exact h ‹_›
end

theorem rdU_ok {bs : Bytes} {pos len : Nat} (h : pos + len ≤ 8 * bs.length) :
    rdU bs pos len = .ok (getBitsU bs pos len) := by
  rw [rdU, getBitsU?_eq h]

theorem rdField_eq {bs : Bytes} {pos len : Nat} (s : Bool) (h1 : 1 ≤ len) (h : pos + len ≤ 8 * bs.length) :
    rdField bs pos s len = .ok (if s then getBitsI bs pos len else (getBitsU bs pos len : Int)) := by
  cases s <;> simp [rdField, getBitsU?_eq h, getBitsI?_eq h1 h]

theorem specU_fieldBits {bs : Bytes} {pos w : Nat} {v : Int} (h : Agrees bs pos (fieldBits w v)) :
    (specU bs pos w : Int) = v % 2^w := by
  rw [specU_natBits h, Int.natCast_emod, Int.toNat_of_nonneg (Int.emod_nonneg _ (Int.ne_of_gt (Int.pow_pos (by decide))))]
  simp

theorem specU_of_agrees {bs : Bytes} {pos w : Nat} {v : Int} (hr : InRange false w v)
    (h : Agrees bs pos (fieldBits w v)) : (specU bs pos w : Int) = v := by
  rw [specU_fieldBits h]; exact Int.emod_eq_of_lt hr.1 hr.2

theorem specI_of_agrees {bs : Bytes} {pos w : Nat} {v : Int} (hw : 0 < w) (hr : InRange true w v)
    (h : Agrees bs pos (fieldBits w v)) : specI bs pos w = v := by
  obtain ⟨k, rfl⟩ := Nat.exists_eq_add_of_le' hw
  simp only [InRange, if_true, Nat.add_sub_cancel] at hr
  rw [specI_eq_bmod _ _ _ hw, specU_fieldBits h, show (2:Int)^(k+1) = ((2^(k+1) : Nat) : Int) by norm_cast,
    Int.emod_bmod]
  exact bmod_eq_self (by rw [Nat.pow_succ]; push_cast; omega)

theorem rdField_fieldBits (bs : Bytes) (pos : Nat) (s : Bool) (w : Nat) (v : Int)
    (hw1 : 1 ≤ w) (hw : w ≤ 64) (hs : s = true → 2 ≤ w) (hr : InRange s w v)
    (hag : Agrees bs pos (fieldBits w v)) : rdField bs pos s w = .ok v := by
  rw [rdField_eq s hw1 (fieldBits_length w v ▸ hag.fits)]
  congr 1
  cases s with
  | false => rw [if_neg (by simp), getBitsU_eq _ _ _ hw, specU_of_agrees hr hag]
  | true => rw [if_pos rfl, getBitsI_eq _ _ _ (hs rfl) hw, specI_of_agrees hw1 hr hag]

@[simp] theorem widthOf_cons (s : Bool) (w : Nat) (cs : List Col) : widthOf ((s, w) :: cs) = w + widthOf cs := rfl

theorem readFields_ok (bs : Bytes) : ∀ (cols : List Col) (pos : Nat), (∀ c ∈ cols, 1 ≤ c.2) →
    pos + widthOf cols ≤ 8 * bs.length → ∃ vs, readFields bs cols pos = .ok vs
  | [], _, _, _ => ⟨[], rfl⟩
  | (s, w) :: cs, pos, hw, h => by
    rw [widthOf_cons, ← Nat.add_assoc] at h
    obtain ⟨vs, hvs⟩ := readFields_ok bs cs (pos + w) (fun c hc => hw c (List.mem_cons_of_mem _ hc)) h
    exact ⟨_, by rw [readFields, rdField_eq s (hw _ List.mem_cons_self) (Nat.le_of_add_right_le h), hvs]; rfl⟩

theorem encodeFields_length : ∀ (cols : List Col) (vals : List Int), FieldsWF cols vals →
    (encodeFields cols vals).length = widthOf cols
  | [], [], _ => rfl
  | (s, w) :: cs, v :: vs, h => by
    rw [encodeFields, List.length_append, fieldBits_length, encodeFields_length cs vs h.2.2.2.2, widthOf_cons]
  | [], _ :: _, h => h.elim
  | _ :: _, [], h => h.elim

theorem readFields_encode (bs : Bytes) : ∀ (cols : List Col) (vals : List Int) (pos : Nat),
    FieldsWF cols vals → Agrees bs pos (encodeFields cols vals) → readFields bs cols pos = .ok vals
  | [], [], _, _, _ => rfl
  | (s, w) :: cs, v :: vs, pos, ⟨h1, h2, h3, h4, h5⟩, hag => by
    obtain ⟨ha, hb⟩ := Agrees.split (a := fieldBits w v) hag
    rw [fieldBits_length] at hb
    rw [readFields, rdField_fieldBits bs pos s w v h1 h2 h3 h4 ha, readFields_encode bs cs vs (pos + w) h5 hb]
    rfl
  | [], _ :: _, _, h, _ => h.elim
  | _ :: _, [], _, h, _ => h.elim

theorem readColumn_ok (bs : Bytes) (s : Bool) (len : Nat) (h1 : 1 ≤ len) : ∀ (n pos : Nat),
    pos + n * len ≤ 8 * bs.length → ∃ vs, readColumn bs s len n pos = .ok vs
  | 0, _, _ => ⟨[], rfl⟩
  | n+1, pos, h => by
    rw [Nat.succ_mul, Nat.add_comm (n * len), ← Nat.add_assoc] at h
    obtain ⟨vs, hvs⟩ := readColumn_ok bs s len h1 n (pos + len) h
    exact ⟨_, by rw [readColumn, rdField_eq s h1 (Nat.le_of_add_right_le h), hvs]; rfl⟩

theorem readColumns_ok (bs : Bytes) (n : Nat) : ∀ (cols : List Col) (pos : Nat),
    (∀ c ∈ cols, 1 ≤ c.2) → pos + n * widthOf cols ≤ 8 * bs.length →
    ∃ vs, readColumns bs n cols pos = .ok vs
  | [], _, _, _ => ⟨[], rfl⟩
  | (s, w) :: cols, pos, hw, h => by
    rw [widthOf_cons, Nat.mul_add, ← Nat.add_assoc] at h
    obtain ⟨c, hc⟩ := readColumn_ok bs s w (hw _ List.mem_cons_self) n pos (Nat.le_of_add_right_le h)
    obtain ⟨vs, hvs⟩ := readColumns_ok bs n cols (pos + n * w) (fun c hc => hw c (List.mem_cons_of_mem _ hc)) h
    exact ⟨_, by rw [readColumns, hc, hvs]; rfl⟩

theorem encodeColumn_length (w : Nat) : ∀ col : List Int, (encodeColumn w col).length = col.length * w
  | [] => by simp [encodeColumn]
  | v :: vs => by
    rw [encodeColumn, List.length_append, fieldBits_length, encodeColumn_length w vs, List.length_cons,
      Nat.succ_mul, Nat.add_comm]

theorem readColumn_encode (bs : Bytes) (s : Bool) (w : Nat) : ∀ (col : List Int) (pos : Nat),
    ColumnWF s w col → Agrees bs pos (encodeColumn w col) → readColumn bs s w col.length pos = .ok col
  | [], _, _, _ => rfl
  | v :: vs, pos, ⟨h1, h2, h3, h4⟩, hag => by
    obtain ⟨ha, hb⟩ := Agrees.split (a := fieldBits w v) hag
    rw [fieldBits_length] at hb
    rw [List.length_cons, readColumn, rdField_fieldBits bs pos s w v h1 h2 h3 (h4 v List.mem_cons_self) ha,
      readColumn_encode bs s w vs (pos + w) ⟨h1, h2, h3, fun x hx => h4 x (List.mem_cons_of_mem _ hx)⟩ hb]
    rfl

theorem encodeColumns_length (n : Nat) : ∀ (cols : List Col) (vals : List (List Int)), ColumnsWF n cols vals →
    (encodeColumns cols vals).length = n * widthOf cols
  | [], [], _ => rfl
  | (s, w) :: cs, col :: rest, ⟨hl, _, hr⟩ => by
    rw [encodeColumns, List.length_append, encodeColumn_length, hl, encodeColumns_length n cs rest hr,
      widthOf_cons, Nat.mul_add]
  | [], _ :: _, h => h.elim
  | _ :: _, [], h => h.elim

theorem readColumns_encode (bs : Bytes) (n : Nat) : ∀ (cols : List Col) (vals : List (List Int)) (pos : Nat),
    ColumnsWF n cols vals → Agrees bs pos (encodeColumns cols vals) → readColumns bs n cols pos = .ok vals
  | [], [], _, _, _ => rfl
  | (s, w) :: cs, col :: rest, pos, ⟨hl, hc, hr⟩, hag => by
    obtain ⟨ha, hb⟩ := Agrees.split (a := encodeColumn w col) hag
    rw [encodeColumn_length, hl] at hb
    rw [readColumns, ← hl, readColumn_encode bs s w col pos hc ha, hl, readColumns_encode bs n cs rest _ hr hb]
    rfl
  | [], _ :: _, _, h, _ => h.elim
  | _ :: _, [], _, h, _ => h.elim
end Ntrip
