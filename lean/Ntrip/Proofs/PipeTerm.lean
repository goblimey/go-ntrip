import Ntrip.Proofs.PipeInv
/-! Termination of the pipeline: a measure that every step decreases. -/
namespace Ntrip.Pipe
variable {M : Type}

theorem sumTo_succ (k : Nat) (f : Nat → Nat) : sumTo (k + 1) f = sumTo k f + f k := by
  simp [sumTo, List.range_succ]

theorem sumTo_le {k : Nat} {f g : Nat → Nat} (i : Nat) (ho : ∀ j, j ≠ i → g j = f j)
    (hle : g i ≤ f i) : sumTo k g ≤ sumTo k f := by
  induction k with
  | zero => exact Nat.le_refl _
  | succ n ih =>
    rw [sumTo_succ, sumTo_succ]
    refine Nat.add_le_add ih ?_
    by_cases hin : n = i
    · exact hin ▸ hle
    · exact Nat.le_of_eq (ho n hin)

theorem sumTo_lt {k : Nat} {f g : Nat → Nat} {i : Nat} (hi : i < k) (ho : ∀ j, j ≠ i → g j = f j)
    (hlt : g i < f i) : sumTo k g < sumTo k f := by
  induction k with
  | zero => exact absurd hi (Nat.not_lt_zero i)
  | succ n ih =>
    rw [sumTo_succ, sumTo_succ]
    by_cases hin : i = n
    · exact hin ▸ Nat.add_lt_add_of_le_of_lt (sumTo_le i ho (Nat.le_of_lt hlt)) hlt
    · exact ho n (Ne.symm hin) ▸ Nat.add_lt_add_right (ih (Nat.lt_of_le_of_ne (Nat.le_of_lt_succ hi) hin)) _

theorem b2n_le (b : Bool) : b2n b ≤ 1 := by cases b <;> simp [b2n]

theorem b2n_not_lt {a b : Bool} (ha : a = true) (hb : b = false) : b2n (!a) < b2n (!b) := by
  subst ha hb; decide

theorem wWork_eq (c : Cfg M) (s : PS M) : wWork c s = fun i =>
    2 * (c.out.length - (s.handled i).length) - b2n (s.wCur i).isSome + b2n (!s.wDone i) := rfl

theorem add_add_lt_add_add_iff (p a b a' b' : Nat) : p + a + b < p + a' + b' ↔ a + b < a' + b' := by
  rw [Nat.add_assoc, Nat.add_assoc, Nat.add_lt_add_iff_left]

theorem Inv.handled_lt {c : Cfg M} {s : PS M} (h : Inv c s) {i : Nat} (hi : i < c.k) (hn : c.isNil i = false)
    (hne : (s.wCur i).toList ++ s.buf i ≠ []) : (s.handled i).length < c.out.length := by
  have := congrArg List.length (h.cons i hi hn)
  rw [List.append_assoc, List.length_append] at this
  exact Nat.lt_of_lt_of_le (Nat.lt_add_of_pos_right (List.length_pos_iff.2 hne))
    (this ▸ List.length_take_le' ..)

theorem measure_decreases (c : Cfg M) (hc : c.WF) (s s' : PS M) (h : Inv c s) (hs : Step c s s') :
    measure c s' < measure c s := by
  have hp' := (inv_step c hc s s' h hs).noPanic
  cases hs
  case dSendClosed | mainCloseBad => cases hp'
  -- a step leaves all summands but one or two alone: cancel those
  all_goals simp only [measure, dWork, wWork_eq, Nat.add_lt_add_iff_right, Nat.add_lt_add_iff_left,
    add_add_lt_add_add_iff]
  case rSend hlt _ _ => exact Nat.sub_succ_lt_self _ _ hlt
  case rClose hb => exact b2n_not_lt rfl hb
  case fSeeClosed hw => exact b2n_not_lt rfl hw.1
  case fSend hlt _ hd _ =>
    -- one message less to emit frees `k + 3`, the hold that begins costs `k + 2`
    have he : s.fEmit < c.out.length := Nat.lt_of_lt_of_le hlt (hc.prod_le ..)
    rw [hd, ← Nat.succ_pred_eq_of_pos (Nat.sub_pos_of_lt he), Nat.succ_mul]
    exact Nat.add_lt_add_left (Nat.lt_succ_self _) _
  case fClose hm => exact b2n_not_lt rfl hm
  case dSeeClosed hdd => exact b2n_not_lt rfl hdd
  case dSkipNil hd hj _ => rw [hd]; exact Nat.sub_succ_lt_self _ _ (Nat.lt_add_right 2 hj)
  case dSendBuf hd hj _ _ _ _ => rw [hd]; exact Nat.sub_succ_lt_self _ _ (Nat.lt_add_right 2 hj)
  case dSendRv j m _ hd hj _ _ _ hcur _ _ _ =>
    rw [hd]
    refine Nat.add_lt_add_of_lt_of_le (Nat.sub_succ_lt_self _ _ (Nat.lt_add_right 2 hj)) ?_
    refine sumTo_le j (fun i hi => by simp only [upd_other hi]) ?_
    simp only [upd_same, hcur]
    exact Nat.add_le_add_right (Nat.sub_le _ _) _
  case dNext hd => rw [hd]; exact Nat.sub_pos_of_lt (Nat.lt_add_of_pos_right Nat.two_pos)
  case mainClose hlt _ _ _ => exact Nat.sub_succ_lt_self _ _ hlt
  case mainSkip hlt _ => exact Nat.sub_succ_lt_self _ _ hlt
  case mainReturn hr _ => exact b2n_not_lt rfl hr
  case wRecv j m rest _ hj hn _ hcur hbuf =>
    have hlen := h.handled_lt hj hn (by simp [hbuf])
    refine sumTo_lt hj (fun i hi => by simp only [upd_other hi]) ?_
    simp only [upd_same, hcur]
    exact Nat.add_lt_add_right (Nat.sub_lt (Nat.mul_pos Nat.two_pos (Nat.sub_pos_of_lt hlen)) Nat.one_pos) _
  case wFinish j m _ hj hn hcur =>
    have hlen := h.handled_lt hj hn (by simp [hcur])
    refine sumTo_lt hj (fun i hi => by simp only [upd_other hi]) ?_
    simp only [upd_same, hcur, List.length_append, List.length_singleton]
    -- with `r + 1` messages unhandled: `2 * r < 2 * (r + 1) - 1`
    rw [← Nat.succ_pred_eq_of_pos (Nat.sub_pos_of_lt hlen), Nat.mul_succ]
    exact Nat.add_lt_add_right (Nat.lt_succ_self _) _
  case wSeeClosed j _ hj _ hwd _ _ _ =>
    refine sumTo_lt hj (fun i hi => by simp only [upd_other hi]) ?_
    simp only [upd_same, hwd]
    exact Nat.lt_succ_self _

/-- Every schedule is finite: along a run the measure falls with every step, so there are at most
    `measure c (init M)` of them. -/
theorem terminates (c : Cfg M) (hc : c.WF) {s s' : PS M} (h : Reach c s) (hs : Step c s s') :
    measure c s' < measure c s :=
  measure_decreases c hc s s' (reach_inv c hc h) hs
end Ntrip.Pipe
