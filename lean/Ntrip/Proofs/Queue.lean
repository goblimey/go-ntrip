import Ntrip.Model.Queue
/-! The circular queue keeps the last N messages (sequential specification). -/
namespace Ntrip

theorem evict_of_lt {α : Type} {max : Int} {l : List (Int × α)} (h : (l.length : Int) < max) : evict max l = l := by
  cases l with
  | nil => rfl
  | cons kv rest => rw [evict, if_neg (by omega)]

theorem evict_eq_drop {α : Type} (max : Int) (l : List (Int × α)) :
    evict max l = l.drop ((l.length : Int) + 1 - max).toNat := by
  fun_induction evict max l with
  | case1 => rw [List.drop_nil]
  | case2 kv rest h ih =>
    rw [List.length_cons] at h ⊢
    rw [ih, show ((rest.length + 1 : Nat) + 1 - max).toNat = ((rest.length : Int) + 1 - max).toNat + 1 by omega,
      List.drop_succ_cons]
  | case3 kv rest h =>
    rw [show (((kv :: rest).length : Int) + 1 - max).toNat = 0 by omega, List.drop_zero]

theorem evict_suffix {α : Type} (max : Int) (l : List (Int × α)) : evict max l <:+ l := by
  rw [evict_eq_drop]; exact List.drop_suffix _ _

/-- The test in front of the eviction loop is the loop's own first test. -/
theorem CQ.add_eq {α : Type} (q : CQ α) (m : α) :
    q.add m = { q with items := evict q.max q.items ++ [(q.next, m)], next := q.next + 1 } := by
  unfold CQ.add
  split
  · rfl
  · rw [evict_of_lt (by omega)]

theorem CQ.adds_append {α : Type} (q : CQ α) (a b : List α) : q.adds (a ++ b) = (q.adds a).adds b :=
  List.foldl_append ..

theorem drop_window {α : Type} (N : Nat) (l ms : List α) :
    (l.drop (l.length - N) ++ ms).drop ((l.drop (l.length - N) ++ ms).length - N) =
      (l ++ ms).drop ((l ++ ms).length - N) := by
  rw [← List.drop_append_of_le_length (Nat.sub_le ..), List.drop_drop]
  congr 1; simp only [List.length_drop, List.length_append]; omega

theorem CQ.get_add {α : Type} (N : Nat) (hN : 1 ≤ N) (q : CQ α) (hmax : q.max = N) (m : α) :
    (q.add m).get = (q.get ++ [m]).drop ((q.get ++ [m]).length - N) := by
  have hk : (q.get ++ [m]).length - N = ((q.items.length : Int) + 1 - (N : Int)).toNat := by
    simp only [CQ.get, List.length_append, List.length_map, List.length_singleton]; omega
  rw [hk, List.drop_append_of_le_length (by rw [CQ.get, List.length_map]; omega), CQ.add_eq, hmax, evict_eq_drop]
  simp only [CQ.get, List.map_append, List.map_drop, List.map_cons, List.map_nil]

theorem CQ.get_adds {α : Type} (N : Nat) (hN : 1 ≤ N) (ms : List α) : ∀ (q : CQ α) (l : List α), q.max = N →
    q.get = l.drop (l.length - N) → (q.adds ms).get = (l ++ ms).drop ((l ++ ms).length - N) := by
  induction ms with
  | nil => intro q l _ h; simpa [CQ.adds] using h
  | cons m ms ih =>
    intro q l hmax h
    have := ih (q.add m) (l ++ [m]) hmax (by rw [CQ.get_add N hN q hmax, h, drop_window])
    rwa [List.append_assoc] at this

/-- **The queue holds the last `N` messages in arrival order** and never more than `N`. -/
theorem queue_spec {α : Type} (N : Nat) (hN : 1 ≤ N) (ms : List α) :
    ((CQ.new (N : Int)).adds ms).get = ms.drop (ms.length - N) ∧
    ((CQ.new (N : Int) : CQ α).adds ms).items.length = min N ms.length := by
  have h : ((CQ.new (N : Int)).adds ms).get = ms.drop (ms.length - N) := by
    simpa using CQ.get_adds N hN ms (CQ.new N) [] rfl (by simp [CQ.new, CQ.get])
  refine ⟨h, ?_⟩
  rw [← List.length_map (·.2), ← CQ.get, h, List.length_drop]
  omega
end Ntrip
