import Ntrip.Spec.Encode
import Ntrip.Model.Go64
/-!
Big-endian numbers over a bit function (`valN`; `specU` is its instance for the bits of a buffer)
and the two bit readers against them.  Two's complement is `Int.bmod` (`bmod_two_mul`), so the wrapped
`int64` arithmetic of `GetBitsAsInt64` is core's `bmod` calculus.
-/
namespace Ntrip

theorem valN_lt (f : Nat → Nat) (hf : ∀ i, f i ≤ 1) (pos : Nat) : ∀ n, valN f pos n < 2^n
  | 0 => by simp [valN]
  | n+1 => by
    have := valN_lt f hf pos n
    have := hf (pos + n)
    simp only [valN, Nat.pow_succ]; omega

theorem valN_add (f : Nat → Nat) (pos a : Nat) : ∀ b,
    valN f pos (a + b) = valN f pos a * 2^b + valN f (pos + a) b
  | 0 => by simp [valN]
  | b+1 => by
    show valN f pos (a + b + 1) = _
    simp only [valN, valN_add f pos a b, Nat.pow_succ, Nat.add_assoc]
    rw [Nat.mul_add, Nat.mul_left_comm, Nat.mul_comm 2 (2 ^ b), Nat.add_assoc]

theorem valN_congr (f g : Nat → Nat) (pos : Nat) : ∀ n,
    (∀ i, i < n → f (pos + i) = g (pos + i)) → valN f pos n = valN g pos n
  | 0, _ => rfl
  | n+1, h => by
    simp only [valN]
    rw [valN_congr f g pos n (fun i hi => h i (by omega)), h n (by omega)]

theorem valN_bit (f : Nat → Nat) (hf : ∀ i, f i ≤ 1) (pos n j : Nat) (hj : j < n) :
    valN f pos n / 2^(n - 1 - j) % 2 = f (pos + j) := by
  obtain ⟨m, rfl⟩ := Nat.exists_eq_add_of_le hj
  rw [show j + 1 + m - 1 - j = m by omega, valN_add, Nat.add_comm,
    Nat.add_mul_div_right _ _ (Nat.two_pow_pos m), Nat.div_eq_of_lt (valN_lt f hf _ m), valN,
    Nat.zero_add, Nat.mul_add_mod, Nat.mod_eq_of_lt (Nat.lt_succ_of_le (hf _))]

theorem bitAt_le (buf : Bytes) (i : Nat) : bitAt buf i ≤ 1 := by
  unfold bitAt; split <;> omega

theorem bitAt_append_left (a b : Bytes) (i : Nat) (h : i < 8 * a.length) : bitAt (a ++ b) i = bitAt a i := by
  unfold bitAt; rw [List.getElem?_append_left (by omega)]

theorem bitAt_append_right (a b : Bytes) (i : Nat) : bitAt (a ++ b) (8 * a.length + i) = bitAt b i := by
  unfold bitAt
  rw [Nat.mul_add_div (by decide), Nat.mul_add_mod, List.getElem?_append_right (Nat.le_add_right _ _),
    Nat.add_sub_cancel_left]

theorem specU_eq_valN (buf : Bytes) (pos : Nat) : ∀ n, specU buf pos n = valN (bitAt buf) pos n
  | 0 => rfl
  | n+1 => by simp only [specU, valN, specU_eq_valN buf pos n]

theorem specU_lt (buf : Bytes) (pos n : Nat) : specU buf pos n < 2^n :=
  specU_eq_valN buf pos n ▸ valN_lt _ (bitAt_le buf) pos n

theorem specU_add (buf : Bytes) (pos a : Nat) : ∀ b,
    specU buf pos (a + b) = specU buf pos a * 2^b + specU buf (pos + a) b := by
  simp only [specU_eq_valN]; exact valN_add _ pos a

theorem specU_one (buf : Bytes) (pos : Nat) : specU buf pos 1 = bitAt buf pos := by
  simp [specU]

theorem specU_head (buf : Bytes) (pos n : Nat) :
    specU buf pos (n+1) = bitAt buf pos * 2^n + specU buf (pos+1) n := by
  rw [Nat.add_comm n 1, specU_add, specU_one]

theorem specU_congr (b1 b2 : Bytes) (pos : Nat) : ∀ n,
    (∀ i, i < n → bitAt b1 (pos + i) = bitAt b2 (pos + i)) → specU b1 pos n = specU b2 pos n := by
  simp only [specU_eq_valN]; exact valN_congr _ _ pos

theorem getBitsU_succ (buf : Bytes) (pos n : Nat) :
    getBitsU buf pos (n+1) = (2 * getBitsU buf pos n + bitAt buf (pos + n)) % 2^64 := by
  have hb := bitAt_le buf (pos + n)
  simp only [getBitsU, List.range_succ, List.foldl_append, List.foldl_cons, List.foldl_nil, stepU,
    Nat.shiftLeft_eq, Nat.pow_one]
  -- `(acc <<< 1) ||| b = 2 * acc + b`, because `b < 2`
  rw [Nat.mul_comm, ← Nat.two_pow_add_eq_or_of_lt (i := 1) (by omega), Nat.pow_one]

theorem getBitsU_eq (buf : Bytes) (pos : Nat) : ∀ n, n ≤ 64 → getBitsU buf pos n = specU buf pos n := by
  intro n
  induction n with
  | zero => intro _; rfl
  | succ n ih =>
    intro h
    have := specU_lt buf pos (n+1)
    have : 2^(n+1) ≤ 2^64 := Nat.pow_le_pow_right (by omega) h
    rw [getBitsU_succ, ih (by omega)]
    exact Nat.mod_eq_of_lt (by simp only [specU] at *; omega)

theorem getBitsU_lt (buf : Bytes) (pos n : Nat) (h : n ≤ 64) : getBitsU buf pos n < 2^n := by
  rw [getBitsU_eq _ _ _ h]; exact specU_lt _ _ _

theorem inRange_of_le {bs : Bytes} {pos len : Nat} (h : pos + len ≤ 8 * bs.length) : inRange bs pos len = true := by
  simp only [inRange, Bool.or_eq_true, beq_iff_eq, decide_eq_true_eq]; omega

theorem getBitsU?_eq {bs : Bytes} {pos len : Nat} (h : pos + len ≤ 8 * bs.length) :
    getBitsU? bs pos len = some (getBitsU bs pos len) := by
  rw [getBitsU?, inRange_of_le h]; rfl

/-- `bmod`'s definition: the remainder is `u` itself and the threshold `(P * 2 + 1) / 2` is `P`. -/
theorem bmod_two_mul (u P : Nat) (h : u < P * 2) :
    (u : Int).bmod (P * 2) = if u < P then (u : Int) else u - (P * 2 : Nat) := by
  rw [Int.bmod_def, Int.emod_eq_of_lt (by omega) (by omega), show ((P * 2 : Nat) + 1 : Int) / 2 = P by omega]
  simp only [Int.ofNat_lt]

theorem toI64_eq_bmod (n : Nat) : toI64 n = (n : Int).bmod (2^64) := by
  rw [← Int.emod_bmod, ← Int.natCast_emod]
  -- `toI64 n` is by definition the right-hand side of `bmod_two_mul` for `n % 2^64` and `P = 2^63`
  exact (bmod_two_mul (n % 2^64) (2^63) (Nat.mod_lt _ (by decide))).symm

theorem wrapI64_eq_bmod (i : Int) : wrapI64 i = i.bmod (2^64) := by
  rw [wrapI64, toI64_eq_bmod, Int.toNat_of_nonneg (Int.emod_nonneg _ (by decide))]
  exact Int.emod_bmod i (2^64)

theorem bmod_eq_self {x : Int} {m : Nat} (h : -(m : Int) ≤ x * 2 ∧ x * 2 < m) : x.bmod m = x :=
  Int.bmod_eq_of_le_mul_two h.1 h.2

theorem toI64_lo (n : Nat) (h : n < 2^63) : toI64 n = (n : Int) := by
  rw [toI64_eq_bmod]; exact bmod_eq_self (by omega)

theorem specI_eq_bmod (buf : Bytes) (pos n : Nat) (h : 0 < n) :
    specI buf pos n = (specU buf pos n : Int).bmod (2^n) := by
  obtain ⟨k, rfl⟩ := Nat.exists_eq_add_of_le' h
  have hu := specU_lt buf pos (k+1)
  have hr := specU_lt buf (pos+1) k
  rw [Nat.pow_succ] at hu
  rw [Nat.pow_succ, bmod_two_mul _ _ hu, specI, specU_head]
  -- the leading bit is set iff the value reaches `2^k`
  rcases Nat.le_one_iff_eq_zero_or_eq_one.1 (bitAt_le buf pos) with hb | hb <;> rw [hb]
  · rw [if_neg (by decide), if_pos (by omega)]
  · rw [if_pos rfl, if_neg (by omega)]; norm_cast

theorem testBit_notU64 (m i : Nat) : (notU64 m).testBit i = (decide (i < 64) && !m.testBit i) := by
  rw [notU64, Nat.sub_sub, Nat.add_comm 1, Nat.testBit_two_pow_sub_succ (Nat.mod_lt _ (by decide)),
    Nat.testBit_mod_two_pow]
  cases decide (i < 64) <;> rfl

/-- The sum is an `or` of disjoint bits; then bit by bit. -/
theorem and_topbit (r k : Nat) (hk : k < 64) (hr : r < 2^k) :
    (2^k + r) &&& 2^k = 2^k ∧ (2^k + r) &&& notU64 (2^k) = r := by
  rw [show 2^k + r = 2^k ||| r from Nat.mul_one (2^k) ▸ Nat.two_pow_add_eq_or_of_lt hr 1]
  constructor <;> apply Nat.eq_of_testBit_eq <;> intro i <;>
    simp only [Nat.testBit_and, Nat.testBit_or, testBit_notU64, Nat.testBit_two_pow]
  · cases decide (k = i) <;> simp
  · by_cases h : k = i
    · simp [← h, Nat.testBit_lt_two_pow hr]
    · by_cases hi : i < 64
      · simp [h, hi]
      · have : r < 2^i := Nat.lt_of_lt_of_le hr (Nat.pow_le_pow_right (by decide) (by omega))
        simp [h, Nat.testBit_lt_two_pow this]

/-- The Go sign arithmetic `-1 * int64(P) + int64(r)`; at `P = 2^63` the product wraps. -/
theorem wrap_neg_top_add (P r : Nat) (hP : P ≤ 2^63) (hr : r < P) :
    wrapI64 (wrapI64 (-1 * toI64 P) + toI64 r) = (r : Int) - P := by
  rw [toI64_eq_bmod, toI64_eq_bmod, wrapI64_eq_bmod, wrapI64_eq_bmod, Int.bmod_add_bmod,
    Int.add_bmod_bmod, Int.add_bmod_eq_add_bmod_right _ Int.mul_bmod_bmod]
  exact (bmod_eq_self (by omega)).trans (by omega)

theorem getBitsI_eq (buf : Bytes) (pos len : Nat) (h2 : 2 ≤ len) (h64 : len ≤ 64) :
    getBitsI buf pos len = specI buf pos len := by
  -- the mask is the weight `2^(len-1)` of the top bit; top bit 0: `toI64` is the identity; top bit 1: `and_topbit`
  -- splits the value into that weight and the lower bits, and `wrap_neg_top_add` is the Go sign arithmetic
  obtain ⟨j, rfl⟩ := Nat.exists_eq_add_of_le' h2
  have hP : (2:Nat)^(j+1) ≤ 2^63 := Nat.pow_le_pow_right (by decide) (by omega)
  have hmask : (2 <<< (j + 2 - 2)) % 2^64 = 2^(j+1) := by
    rw [Nat.shiftLeft_eq, ← Nat.pow_succ', Nat.add_sub_cancel]
    exact Nat.mod_eq_of_lt (Nat.lt_of_le_of_lt hP (by decide))
  have hr := specU_lt buf (pos+1) (j+1)
  rw [getBitsI, specI, getBitsU_eq _ _ 1 (by decide), getBitsU_eq _ _ _ h64, specU_one, hmask,
    specU_head buf pos (j+1)]
  simp only [beq_iff_eq, h2, if_true]
  rcases Nat.le_one_iff_eq_zero_or_eq_one.1 (bitAt_le buf pos) with hb | hb <;> rw [hb]
  · rw [if_neg (by decide), if_neg (by decide), Nat.zero_mul, Nat.zero_add, toI64_lo _ (Nat.lt_of_lt_of_le hr hP)]
  · obtain ⟨h1, h2⟩ := and_topbit _ (j+1) (by omega) hr
    rw [if_pos rfl, if_pos rfl, Nat.one_mul, h1, h2, wrap_neg_top_add _ _ hP hr,
      show (2:Int)^(j+2) = ((2^(j+1) * 2 : Nat) : Int) by norm_cast]
    omega

theorem getBitsI?_eq {bs : Bytes} {pos len : Nat} (h1 : 1 ≤ len) (h : pos + len ≤ 8 * bs.length) :
    getBitsI? bs pos len = some (getBitsI bs pos len) := by
  rw [getBitsI?, inRange_of_le h, inRange_of_le (show pos + 1 ≤ 8 * bs.length by omega)]; rfl

/-! Two facts about the 64-bit operations of `Model/Go64.lean` (in which `extract/translate.go` expresses the code it
regenerates into `Generated/Funcs.lean`), for `C14.translated_loop_body` and `C14.translated_signed_branch`. -/

theorem idx_map (buf : Bytes) (k : Nat) : Go64.idx (buf.map (·.toNat)) k = match buf[k]? with | some b => b.toNat | none => 0 := by
  unfold Go64.idx
  rw [List.getElem?_map]
  cases buf[k]? <;> rfl

theorem subU_of_le (a b : Nat) (h : b ≤ a) (ha : a < 2 ^ 64) : Go64.subU a b = a - b := by
  rw [Go64.subU, Go64.ofI, ← Int.natCast_sub h, Int.emod_eq_of_lt (Int.natCast_nonneg _) (by omega), Int.toNat_natCast]

end Ntrip
