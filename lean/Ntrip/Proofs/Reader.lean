import Ntrip.Spec.ReadScript
/-! The read loop forwards exactly the bytes it was given (C13). -/
namespace Ntrip

theorem bytesOf_append (a b : List ReadRes) : bytesOf (a ++ b) = bytesOf a ++ bytesOf b := by
  induction a with
  | nil => rfl
  | cons r t ih => cases r <;> simp [bytesOf, ih]

def RStep.st : RStep → RState
  | .cont s => s
  | .stop s _ => s

theorem stepReader_spec (cfg : RCfg) (r : ReadRes) (st : RState) :
    (stepReader cfg r st).st.consumed = st.consumed + 1 ∧
    (stepReader cfg r st).st.forwarded = st.forwarded ++ bytesOf [r] ∧
    ∀ st', stepReader cfg r st ≠ .stop st' .scriptEnd := by
  -- EOF and timeout take the same branch of `stepReader`, which does not look at `r`
  have soft : (stepReader cfg .eof st).st.consumed = st.consumed + 1 ∧
      (stepReader cfg .eof st).st.forwarded = st.forwarded ++ [] ∧
      ∀ st', stepReader cfg .eof st ≠ .stop st' .scriptEnd := by
    simp only [stepReader, List.append_nil]
    repeat' split
    all_goals exact ⟨rfl, rfl, fun _ h => nomatch h⟩
  cases r with
  | byte b => exact ⟨rfl, rfl, fun _ h => nomatch h⟩
  | other => exact ⟨rfl, (List.append_nil _).symm, fun _ h => nomatch h⟩
  | eof | timeout => exact soft

theorem runReader_spec (cfg : RCfg) : ∀ (script : List ReadRes) (st : RState), ∃ k, k ≤ script.length ∧
    (runReader cfg script st).1.consumed = st.consumed + k ∧
    (runReader cfg script st).1.forwarded = st.forwarded ++ bytesOf (script.take k) ∧
    ((runReader cfg script st).2 = .scriptEnd → k = script.length)
  | [], st => ⟨0, Nat.le_refl _, rfl, (List.append_nil _).symm, fun _ => rfl⟩
  | r :: rest, st => by
    obtain ⟨hc, hf, hw⟩ := stepReader_spec cfg r st
    rw [runReader]
    cases hstep : stepReader cfg r st with
    | stop st' why =>
      simp only [hstep, RStep.st] at hc hf
      exact ⟨1, Nat.succ_le_succ (Nat.zero_le _), hc, hf, fun h => absurd (h ▸ hstep) (hw st')⟩
    | cont st' =>
      simp only [hstep, RStep.st] at hc hf
      obtain ⟨k, hk, h1, h2, h3⟩ := runReader_spec cfg rest st'
      refine ⟨k + 1, Nat.succ_le_succ hk, by rw [h1, hc, Nat.add_assoc, Nat.add_comm 1], ?_, fun h => by rw [h3 h]; rfl⟩
      rw [h2, hf, List.append_assoc, ← bytesOf_append]
      rfl

theorem forwarded_exact (cfg : RCfg) : ∀ (script : List ReadRes) (st : RState),
    st.consumed ≤ (runReader cfg script st).1.consumed ∧
    (runReader cfg script st).1.consumed ≤ st.consumed + script.length ∧
    (runReader cfg script st).1.forwarded =
      st.forwarded ++ bytesOf (script.take ((runReader cfg script st).1.consumed - st.consumed)) := by
  intro script st
  obtain ⟨k, hk, hc, hf, -⟩ := runReader_spec cfg script st
  rw [hc, Nat.add_sub_cancel_left]
  exact ⟨Nat.le_add_right .., Nat.add_le_add_left hk _, hf⟩

theorem isolated_cons (r : ReadRes) (rest : List ReadRes) : Isolated (r :: rest) ↔
    r ≠ .other ∧ (r.isSoftFailure = true → ∀ b ∈ rest.head?, b.isByte = true) ∧ Isolated rest := by
  cases rest <;> simp [Isolated]

theorem runReader_soft (cfg : RCfg) (hτ : cfg.tau ≠ 0) (f : ReadRes) (hs : f.isSoftFailure = true)
    (rest : List ReadRes) (st : RState) (h0 : st.firstEOF = none) :
    ∃ st', runReader cfg (f :: rest) st = runReader cfg rest st' := by
  cases f with
  | eof | timeout =>
    simp only [runReader, stepReader, if_neg hτ, h0]
    cases st.clock <;> exact ⟨_, rfl⟩
  | _ => cases hs

/-- Isolated EOF/timeout results never stop the handler: a byte follows each, and a byte ends the run of failures. -/
theorem isolated_never_stops (cfg : RCfg) (hτ : cfg.tau ≠ 0) : ∀ (script : List ReadRes) (st : RState),
    Isolated script → (st.firstEOF.isSome → ∀ r ∈ script.head?, r.isByte = true) →
    (runReader cfg script st).2 = .scriptEnd
  | [], _, _, _ => rfl
  | r :: rest, st, hiso, hfirst => by
    obtain ⟨hne, hnext, hrest⟩ := (isolated_cons r rest).mp hiso
    by_cases hs : r.isSoftFailure = true
    · have h0 : st.firstEOF = none := Option.not_isSome_iff_eq_none.mp fun hsome => by
        have := hfirst hsome r rfl
        cases r <;> cases hs <;> cases this
      obtain ⟨st', hrun⟩ := runReader_soft cfg hτ r hs rest st h0
      rw [hrun]
      exact isolated_never_stops cfg hτ rest st' hrest fun _ => hnext hs
    · cases r with
      | byte b => exact isolated_never_stops cfg hτ rest _ hrest nofun
      | other => exact absurd rfl hne
      | _ => exact absurd rfl hs

theorem stops_at_first_failure (cfg : RCfg) (pre : List UInt8) (f : ReadRes) (post : List ReadRes) (st : RState)
    (hf : f = .other ∨ (cfg.tau = 0 ∧ f.isSoftFailure = true)) :
    (runReader cfg (pre.map ReadRes.byte ++ f :: post) st).1.forwarded = st.forwarded ++ pre ∧
    (runReader cfg (pre.map ReadRes.byte ++ f :: post) st).1.consumed = st.consumed + pre.length + 1 ∧
    (runReader cfg (pre.map ReadRes.byte ++ f :: post) st).2 ≠ .scriptEnd := by
  induction pre generalizing st with
  | nil =>
    rw [List.append_nil, List.map_nil, List.nil_append]
    rcases hf with rfl | ⟨h0, hs⟩
    · exact ⟨rfl, rfl, nofun⟩
    · cases f with
      | eof | timeout => simp [runReader, stepReader, h0]
      | _ => cases hs
  | cons b t ih =>
    have := ih { st with consumed := st.consumed + 1, forwarded := st.forwarded ++ [b], firstEOF := none }
    rwa [List.append_assoc, Nat.add_right_comm _ 1] at this
end Ntrip
