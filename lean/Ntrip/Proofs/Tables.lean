import Ntrip.Model.Classify
/-! Table lemmas: a lookup with default / a membership test over a concrete table is
    characterised by checking its rows (finite: by evaluation) and its behaviour off the keys. -/
namespace Ntrip

/-- The rows are compared as columns so that `rfl` checks a concrete table: the column of expected values is
    evaluated and compared with the table's column as a term, where `decide` on `∀ kv ∈ rows, f kv.1 = kv.2` would
    compare strings byte by byte (dear for the kernel). -/
theorem lookup_getD_eq {β : Type} (rows : List (Int × β)) (d : β) (f : Int → β)
    (hrows : rows.map (fun kv => f kv.1) = rows.map (·.2)) (hoff : ∀ t, t ∉ rows.map (·.1) → f t = d) (t : Int) :
    (rows.lookup t).getD d = f t := by
  specialize hoff t
  induction rows with
  | nil => exact (hoff List.not_mem_nil).symm
  | cons kv rest ih =>
    obtain ⟨hkv, hrest⟩ := List.cons.inj hrows
    rw [List.lookup_cons]
    by_cases h : t = kv.1
    · rw [h, beq_self_eq_true]
      exact hkv.symm
    · rw [beq_false_of_ne h]
      exact ih hrest fun hn => hoff fun hm => (List.mem_cons.1 hm).elim h hn

theorem contains_congr (l1 l2 : List Int) (h1 : ∀ x ∈ l1, x ∈ l2) (h2 : ∀ x ∈ l2, x ∈ l1) (t : Int) :
    l1.contains t = l2.contains t := by
  rw [List.contains_eq_mem, List.contains_eq_mem, decide_eq_decide]
  exact ⟨h1 t, h2 t⟩

/-- `header.getMSMType` and `utils.MSM` are two tables in the source; they accept the same types. -/
theorem headerAccepts_eq_isMSM (t : Int) : headerAccepts t = isMSM t := by
  unfold headerAccepts
  simp only [Gen.header_getMSMType]
  rw [lookup_getD_eq _ _ (fun t => if isMSM t then "accept" else "reject")]
  · cases isMSM t <;> rfl
  · rfl
  · intro t ht
    refine if_neg fun h => ht ?_
    simp only [isMSM, isMSM4, isMSM7, Bool.or_eq_true, List.contains_eq_mem, decide_eq_true_eq, ← List.mem_append] at h
    exact (by decide : ∀ x ∈ _ ++ _, x ∈ _) t h

end Ntrip
