import Ntrip.Model.QueueConc
import Ntrip.Proofs.Queue
/-!
Under concurrent use every returned snapshot is a snapshot of the sequential queue (`reach_inv`).  The invariant
does not describe the half-done states of a critical section: it says where the section will end (`finishW`: the
shared map once the `Add` is through; `finishR`: the snapshot the `GetMessages` will return), and a micro-step does
not change that (`micro_W`, `micro_R`).
-/
namespace Ntrip.QC

/-- Keys strictly ascending and below `NextIndex` (so an assignment at `NextIndex` is an append). -/
structure WFQ {M : Type} (q : CQ M) : Prop where
  asc : (keysOf q.items).Pairwise (· < ·)
  below : ∀ k ∈ keysOf q.items, k < q.next

theorem finishEvict_short {M : Type} (max : Int) (items : List (Int × M)) (ks : List Int)
    (h : ¬ (items.length : Int) ≥ max) : finishEvict max items ks = items := by
  induction ks with
  | nil => rfl
  | cons k ks ih => rw [finishEvict, if_neg h, ih]

theorem delKey_head {M : Type} (kv : Int × M) (rest : List (Int × M))
    (h : ∀ k ∈ keysOf rest, kv.1 < k) : delKey kv.1 (kv :: rest) = rest := by
  rw [delKey, List.filter_cons_of_neg (by simp), List.filter_eq_self]
  intro x hx
  have := h x.1 (List.mem_map_of_mem hx)
  simp only [bne_iff_ne, ne_eq]
  omega

theorem finishEvict_eq_evict {M : Type} (max : Int) : ∀ (items : List (Int × M)),
    (keysOf items).Pairwise (· < ·) → finishEvict max items (keysOf items) = evict max items
  | [], _ => rfl
  | kv :: rest, h => by
    have hp := List.pairwise_cons.mp h
    show finishEvict max (kv :: rest) (kv.1 :: keysOf rest) = _
    rw [finishEvict, evict]
    split
    · rw [delKey_head kv rest hp.1]
      exact finishEvict_eq_evict max rest hp.2
    · exact finishEvict_short max _ _ ‹_›

theorem finishW_addTest {M : Type} (q : CQ M) (m : M) (h : WFQ q) : finishW (.addTest m) q = q.add m := by
  rw [finishW, CQ.add, finishEvict_eq_evict q.max q.items h.asc]

theorem lookup_append_right {M : Type} (k : Int) (pre l : List (Int × M)) (h : k ∉ keysOf pre) :
    lookupKey k (pre ++ l) = lookupKey k l := by
  induction pre with
  | nil => rfl
  | cons kv pre ih =>
    rw [keysOf, List.map_cons, List.mem_cons, not_or] at h
    rw [List.cons_append, lookupKey, if_neg (Ne.symm h.1), ih h.2]

theorem collect_cons_of_not_mem {M : Type} (k' : Int) (v : M) (rest : List (Int × M)) :
    ∀ (ks : List Int) (acc : List M), k' ∉ ks → collect ((k', v) :: rest) ks acc = collect rest ks acc
  | [], _, _ => rfl
  | k :: ks, acc, h => by
    rw [collect, collect, lookupKey, if_neg (fun e : k' = k => h (e ▸ List.mem_cons_self ..)),
      collect_cons_of_not_mem k' v rest ks _ (fun hm => h (List.mem_cons_of_mem _ hm))]

theorem collect_keys {M : Type} : ∀ (items : List (Int × M)) (acc : List M), (keysOf items).Pairwise (· < ·) →
    collect items (keysOf items) acc = acc ++ items.map (·.2)
  | [], acc, _ => (List.append_nil acc).symm
  | (k, v) :: rest, acc, h => by
    have hp : (∀ k' ∈ keysOf rest, k < k') ∧ (keysOf rest).Pairwise (· < ·) := List.pairwise_cons.mp h
    show collect ((k, v) :: rest) (k :: keysOf rest) acc = _
    rw [collect, lookupKey, if_pos rfl, collect_cons_of_not_mem k v rest (keysOf rest) _ (fun hm => Int.lt_irrefl _ (hp.1 k hm)),
      collect_keys rest _ hp.2, List.append_assoc]
    rfl

theorem finishR_getKeys {M : Type} (q : CQ M) (n : Nat) (h : WFQ q) : finishR (.getKeys n) q = q.get := by
  rw [finishR, collect_keys _ _ h.asc]; rfl

theorem wfq_new {M : Type} (max : Int) : WFQ (CQ.new max : CQ M) := ⟨List.Pairwise.nil, nofun⟩

theorem wfq_add {M : Type} (q : CQ M) (m : M) (h : WFQ q) : WFQ (q.add m) := by
  have hsub : keysOf (evict q.max q.items) <:+ keysOf q.items := (evict_suffix ..).map _
  have hbelow : ∀ k ∈ keysOf (evict q.max q.items), k < q.next := fun k hk => h.below k (hsub.subset hk)
  rw [CQ.add_eq]
  constructor
  · show (keysOf (evict q.max q.items ++ [(q.next, m)])).Pairwise (· < ·)
    rw [keysOf, List.map_append, List.pairwise_append]
    refine ⟨h.asc.sublist hsub.sublist, List.pairwise_singleton .., fun a ha b hb => ?_⟩
    rw [List.mem_singleton.mp hb]; exact hbelow a ha
  · intro k hk
    show k < q.next + 1
    rw [keysOf, List.map_append, List.mem_append, List.map_singleton, List.mem_singleton] at hk
    rcases hk with hk | rfl
    · exact Int.lt_add_one_of_le (Int.le_of_lt (hbelow k hk))
    · exact Int.lt_succ _

theorem wfq_adds {M : Type} (ms : List M) : ∀ (q : CQ M), WFQ q → WFQ (q.adds ms) := by
  induction ms with
  | nil => intro q h; exact h
  | cons m ms ih => intro q h; exact ih _ (wfq_add q m h)

def T.getN {M : Type} : T M → Option Nat
  | .getKeys n | .getLoop n _ _ | .getDone n _ => some n
  | _ => none

theorem T.inW_of_inR {M : Type} {v : T M} (h : v.inR = true) : v.inW = false := by cases v <;> trivial
theorem T.getN_of_inW {M : Type} {v : T M} (h : v.inW = true) : v.getN = none := by cases v <;> trivial

theorem finishR_of_not_inR {M : Type} {v : T M} (h : v.inR = false) (q q' : CQ M) : finishR v q = finishR v q' := by
  cases v <;> trivial

theorem upd_same {α : Type} (f : Nat → α) (i : Nat) (v : α) : upd f i v i = v := if_pos rfl
theorem upd_other {α : Type} {f : Nat → α} {i j : Nat} {v : α} (h : j ≠ i) : upd f i v j = f j := if_neg h

theorem micro_W {M : Type} (t : T M) (q : CQ M) (h : t.inW = true) (hu : t ≠ .addUnlock) :
    (micro t q).1.inW = true ∧ finishW (micro t q).1 (micro t q).2 = finishW t q := by
  cases t with
  | addTest m =>
    by_cases hc : (q.items.length : Int) ≥ q.max <;> simp [micro, T.inW, finishW, hc]
  | addEvict m ks =>
    cases ks with
    | nil => exact ⟨rfl, rfl⟩
    | cons k ks =>
      by_cases hc : (q.items.length : Int) ≥ q.max <;> simp [micro, T.inW, finishW, finishEvict, hc]
  | addIns m => exact ⟨rfl, rfl⟩
  | addInc m => exact ⟨rfl, rfl⟩
  | addUnlock => exact absurd rfl hu
  | _ => cases h

theorem micro_R {M : Type} (t : T M) (q : CQ M) (h : t.inR = true) (hu : ∀ n acc, t ≠ .getLoop n [] acc) :
    (micro t q).1.inR = true ∧ (micro t q).1.getN = t.getN ∧ (micro t q).2 = q ∧
    finishR (micro t q).1 q = finishR t q := by
  cases t with
  | getKeys n => exact ⟨rfl, rfl, rfl, rfl⟩
  | getLoop n ks acc =>
    cases ks with
    | nil => exact absurd rfl (hu n acc)
    | cons k ks => exact ⟨rfl, rfl, rfl, rfl⟩
  | _ => cases h

/-- The invariant of the lock discipline: a goroutine inside `Add` is alone (`excl`); the shared map is the sequential
    queue after the additions in lock order when nobody is inside `Add` (`absIdle`), and will be when the one inside is
    through (`absW`); a reader that obtained the lock after `n` additions will return, or has returned, the snapshot of
    the sequential queue after those `n` (`rd`, `rets`). -/
structure Inv {M : Type} (max : Int) (s : S M) : Prop where
  excl : ∀ t u, t ≠ u → (s.th t).inW = true → (s.th u).inW = false ∧ (s.th u).inR = false
  absIdle : (∀ t, (s.th t).inW = false) → s.q = (CQ.new max).adds s.order
  absW : ∀ t, (s.th t).inW = true → finishW (s.th t) s.q = (CQ.new max).adds s.order
  rd : ∀ t n, (s.th t).getN = some n →
    n ≤ s.order.length ∧ finishR (s.th t) s.q = ((CQ.new max).adds (s.order.take n)).get
  rets : ∀ p ∈ s.rets, p.1 ≤ s.order.length ∧ p.2 = ((CQ.new max).adds (s.order.take p.1)).get

theorem inv_init {M : Type} (max : Int) : Inv max (init M max) :=
  ⟨nofun, fun _ => rfl, nofun, nofun, nofun⟩

variable {M : Type} {max : Int} {s : S M}

/-- Goroutine `t`, not in the middle of `Add`, moves to a state `v` outside `Add`, and nothing else changes. -/
theorem inv_upd (hi : Inv max s) (t : Nat) (v : T M) (hv : v.inW = false)
    (hR : v.inR = true → ∀ u, u ≠ t → (s.th u).inW = false)
    (ht : (s.th t).inW = false ∨ s.th t = .addUnlock)
    (hN : ∀ n, v.getN = some n →
      n ≤ s.order.length ∧ finishR v s.q = ((CQ.new max).adds (s.order.take n)).get) :
    Inv max { s with th := upd s.th t v } := by
  have hold : ∀ u, (upd s.th t v u).inW = true → u ≠ t ∧ (s.th u).inW = true := fun u hu => by
    have hut : u ≠ t := fun e => by rw [e, upd_same, hv] at hu; cases hu
    rw [upd_other hut] at hu
    exact ⟨hut, hu⟩
  -- `excl`, `absIdle`, `absW`, `rd`, in this order
  refine ⟨fun a b hab ha => ?_, fun hall => ?_, fun u hu => ?_, fun u n hn => ?_, hi.rets⟩
  all_goals dsimp only at *
  · obtain ⟨hat, ha'⟩ := hold a ha
    by_cases hbt : b = t
    · subst hbt; rw [upd_same]
      exact ⟨hv, Bool.eq_false_iff.mpr fun hr => by simp [hR hr a hat] at ha'⟩
    · rw [upd_other hbt]; exact hi.excl a b hab ha'
  · rcases ht with ht | ht
    · refine hi.absIdle fun u => ?_
      by_cases hut : u = t
      · subst hut; exact ht
      · have := hall u; rwa [upd_other hut] at this
    · have := hi.absW t (ht ▸ rfl)
      rwa [ht] at this
  · obtain ⟨hut, hu'⟩ := hold u hu
    rw [upd_other hut]; exact hi.absW u hu'
  · by_cases hut : u = t
    · subst hut; rw [upd_same] at hn ⊢; exact hN n hn
    · rw [upd_other hut] at hn ⊢; exact hi.rd u n hn

/-- Goroutine `t`, the only one in a critical section, moves on inside `Add`. -/
theorem inv_writer (hi : Inv max s) (t : Nat) (v : T M) (q' : CQ M) (order' : List M)
    (hout : ∀ u, u ≠ t → (s.th u).inW = false ∧ (s.th u).inR = false) (hord : s.order <+: order')
    (hv : v.inW = true) (hfin : finishW v q' = (CQ.new max).adds order') :
    Inv max { s with th := upd s.th t v, q := q', order := order' } := by
  obtain ⟨ms, rfl⟩ := hord
  have htake : ∀ n, n ≤ s.order.length → n ≤ (s.order ++ ms).length ∧ (s.order ++ ms).take n = s.order.take n :=
    fun n hn => ⟨by rw [List.length_append]; omega, List.take_append_of_le_length hn⟩
  have honly : ∀ u, (upd s.th t v u).inW = true → u = t := fun u hu =>
    Classical.byContradiction fun hut => by rw [upd_other hut, (hout u hut).1] at hu; cases hu
  -- `excl`, `absIdle`, `absW`, `rd`, `rets`, in this order
  refine ⟨fun a b hab ha => ?_, fun hall => ?_, fun u hu => ?_, fun u n hn => ?_, fun p hp => ?_⟩
  all_goals dsimp only at *
  · cases honly a ha
    rw [upd_other hab.symm]; exact hout b hab.symm
  · have := hall t; rw [upd_same, hv] at this; cases this
  · cases honly u hu
    rw [upd_same]; exact hfin
  · by_cases hut : u = t
    · subst hut; rw [upd_same, T.getN_of_inW hv] at hn; cases hn
    · rw [upd_other hut] at hn ⊢
      obtain ⟨h1, h2⟩ := hi.rd u n hn
      rw [(htake n h1).2, finishR_of_not_inR (hout u hut).2 q' s.q]
      exact ⟨(htake n h1).1, h2⟩
  · obtain ⟨h1, h2⟩ := hi.rets p hp
    rw [(htake _ h1).2]
    exact ⟨(htake _ h1).1, h2⟩

theorem inv_ret (hi : Inv max s) (p : Nat × List M)
    (hp : p.1 ≤ s.order.length ∧ p.2 = ((CQ.new max).adds (s.order.take p.1)).get) :
    Inv max { s with rets := s.rets ++ [p] } := by
  refine ⟨hi.excl, hi.absIdle, hi.absW, hi.rd, fun p' hp' => ?_⟩
  rcases List.mem_append.mp hp' with h | h
  · exact hi.rets p' h
  · rw [List.mem_singleton.mp h]; exact hp

theorem inv_step (hi : Inv max s) {s' : S M} (hs : Step true s s') : Inv max s' := by
  cases hs with
  | invAdd t m h => exact inv_upd hi t _ rfl nofun (.inl (h ▸ rfl)) nofun
  | invGet t h => exact inv_upd hi t _ rfl nofun (.inl (h ▸ rfl)) nofun
  | lockW t m h hfree =>
    have hq : s.q = (CQ.new max).adds s.order := hi.absIdle fun u => (hfree rfl u).1
    refine inv_writer hi t _ s.q _ (fun u _ => hfree rfl u) (List.prefix_append ..) rfl ?_
    rw [finishW_addTest _ _ (hq ▸ wfq_adds _ _ (wfq_new max)), hq, CQ.adds_append]; rfl
  | microW t hw hne =>
    obtain ⟨m1, m2⟩ := micro_W (s.th t) s.q hw hne
    exact inv_writer hi t _ _ _ (fun u hu => hi.excl t u hu.symm hw) (List.prefix_refl _) m1 (m2 ▸ hi.absW t hw)
  | unlockW t h => exact inv_upd hi t _ rfl nofun (.inr h) nofun
  | lockR t h hfree =>
    have hq : s.q = (CQ.new max).adds s.order := hi.absIdle (hfree rfl)
    refine inv_upd hi t _ rfl (fun _ u _ => hfree rfl u) (.inl (h ▸ rfl)) fun n hn => ?_
    cases hn
    rw [finishR_getKeys _ _ (hq ▸ wfq_adds _ _ (wfq_new max)), List.take_length, ← hq]
    exact ⟨Nat.le_refl _, rfl⟩
  | microR t hr hne =>
    obtain ⟨m1, m2, m3, m4⟩ := micro_R (s.th t) s.q hr hne
    rw [m3]
    refine inv_upd hi t _ (T.inW_of_inR m1) (fun _ u hu => ?_) (.inl (T.inW_of_inR hr)) fun n hn => ?_
    · exact Bool.eq_false_iff.mpr fun hw => by simpa [hr] using (hi.excl u t hu hw).2
    · rw [m2] at hn; rw [m4]; exact hi.rd t n hn
  | unlockR t n acc h =>
    refine inv_upd hi t _ rfl nofun (.inl (h ▸ rfl)) fun n' hn => ?_
    cases hn
    have := hi.rd t n (by rw [h]; rfl)
    rwa [h] at this
  | retGet t n r h =>
    have hold := hi.rd t n (by rw [h]; rfl)
    rw [h] at hold
    exact inv_upd (inv_ret hi (n, r) hold) t _ rfl nofun (.inl (h ▸ rfl)) nofun

theorem reach_inv {s : S M} (h : Reach true max s) : Inv max s := by
  induction h with
  | init => exact inv_init max
  | step _ hs ih => exact inv_step ih hs

end Ntrip.QC
