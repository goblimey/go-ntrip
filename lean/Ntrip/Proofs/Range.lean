import Ntrip.Generated.Funcs
import Ntrip.Model.Range
import Ntrip.Proofs.Bits
/-! Arithmetic of the scaled range values. -/
namespace Ntrip

theorem shl_mod (v s : Nat) (h : v * 2^s < 2^64) : (v <<< s) % 2^64 = v * 2^s := by
  rw [Nat.shiftLeft_eq, Nat.mod_eq_of_lt h]

theorem mul_two_pow_or (a b s : Nat) (hb : b < 2^s) : a * 2^s ||| b = a * 2^s + b := by
  rw [Nat.mul_comm]; exact (Nat.two_pow_add_eq_or_of_lt hb a).symm

theorem scaledValue_eq (v1 s1 v2 s2 : Nat) (delta : Int)
    (hdis : v2 * 2^s2 < 2^s1) (hfit : v1 * 2^s1 + v2 * 2^s2 < 2^63)
    (hnn : 0 ≤ (v1 * 2^s1 + v2 * 2^s2 : Nat) + delta) (hlt : (v1 * 2^s1 + v2 * 2^s2 : Nat) + delta < 2^63) :
    (scaledValue v1 s1 v2 s2 delta : Int) = (v1 * 2^s1 + v2 * 2^s2 : Nat) + delta := by
  rw [scaledValue, shl_mod v1 s1 (by omega), shl_mod v2 s2 (by omega), mul_two_pow_or _ _ _ hdis,
    Nat.mod_eq_of_lt (by omega), toI64_lo _ hfit, Int.toNat_of_nonneg (Int.emod_nonneg _ (by decide))]
  exact Int.emod_eq_of_lt hnn (Int.lt_trans hlt (by decide))

/-- The MSM cells use it with `k = 10`, `j = 8` and `s = 19` (ranges: whole milliseconds 0…254, a fraction in
    1/1024, a fine part) or `s = 21` (phase ranges). -/
theorem scaledValue_fields (v1 v2 s k j : Nat) (d : Int) (h1 : v1 < 2^j) (h2 : v2 < 2^k) (hs : s + k + j ≤ 62)
    (hd : d < 2^62) (hnn : 0 ≤ (v1 * 2^(s + k) + v2 * 2^s : Nat) + d) :
    (scaledValue v1 (s + k) v2 s d : Int) = (v1 * 2^(s + k) + v2 * 2^s : Nat) + d := by
  have hlo : v2 * 2^s < 2^(s + k) := by
    rw [Nat.pow_add, Nat.mul_comm]; exact Nat.mul_lt_mul_of_pos_left h2 (Nat.two_pow_pos s)
  have hhi : v1 * 2^(s + k) + v2 * 2^s < 2^62 :=
    calc _ < (v1 + 1) * 2^(s + k) := by rw [Nat.succ_mul]; omega
      _ ≤ 2^j * 2^(s + k) := Nat.mul_le_mul_right _ h1
      _ = 2^(j + (s + k)) := (Nat.pow_add ..).symm
      _ ≤ 2^62 := Nat.pow_le_pow_right (by decide) (by omega)
  exact scaledValue_eq _ _ _ _ _ hlo (by omega) hnn (by omega)

/-! The cell methods with the regenerated constants put in (an MSM4 fine value at MSM7 resolution). -/

theorem aggregateRange7_eq (whole frac : Nat) (d : Int) : aggregateRange7 whole frac d =
    if whole = 255 then 0 else scaledValue whole 29 frac 19 (if d = -524288 then 0 else d) := by
  rw [apply_ite (scaledValue whole 29 frac 19)]; rfl

theorem aggregateRange4_eq (whole frac : Nat) (d : Int) : aggregateRange4 whole frac d =
    if whole = 255 then 0 else scaledValue whole 29 frac 19 (if d = -16384 then 0 else d * 32) := by
  rw [apply_ite (scaledValue whole 29 frac 19)]; rfl

theorem aggregatePhase7_eq (whole frac : Nat) (d : Int) : aggregatePhase7 whole frac d =
    if whole = 255 then 0 else scaledValue whole 31 frac 21 (if d = -8388608 then 0 else d) := rfl

theorem aggregatePhase4_eq (whole frac : Nat) (d : Int) : aggregatePhase4 whole frac d =
    if whole = 255 then 0 else scaledValue whole 31 frac 21 (if d = -2097152 then 0 else d * 4) := rfl

theorem aggregateRate7_eq (rate d : Int) : aggregateRate7 rate d =
    if rate = -8192 then 0 else rate * 10000 + (if d ≠ -16384 then d else 0) := rfl

/-! `Go64.toI`, `Go64.wrapI`, in which `Generated/Funcs.lean` is written, are, definition for definition, `toI64`,
    `wrapI64` of `Model/Bits.lean`. -/

theorem wrapI_eq_bmod (y : Int) : Go64.wrapI y = y.bmod (2 ^ 64) := wrapI64_eq_bmod y

theorem ofI_wrapI (y : Int) : Go64.ofI (Go64.wrapI y) = Go64.ofI y := by
  rw [wrapI_eq_bmod, Go64.ofI, Go64.ofI]
  exact congrArg Int.toNat (by exact_mod_cast Int.bmod_emod (x := y) (m := 2 ^ 64))

theorem translated_getScaledValue (v1 s1 v2 s2 : Nat) (delta : Int) :
    Gen.fn_utils_getScaledValue v1 s1 v2 s2 delta = scaledValue v1 s1 v2 s2 delta := by
  unfold Gen.fn_utils_getScaledValue scaledValue
  simp only [Go64.orU, Go64.shlU, Go64.addI, Go64.wrapI]
  -- the model reduces the `or` mod 2^64 once more, which changes nothing
  rw [Nat.mod_eq_of_lt (Nat.or_lt_two_pow (Nat.mod_lt _ (Nat.two_pow_pos 64)) (Nat.mod_lt _ (Nat.two_pow_pos 64)))]
  exact ofI_wrapI _

theorem wrapI_of_range (y : Int) (h : -(2 ^ 63 : Int) ≤ y ∧ y < 2 ^ 63) : Go64.wrapI y = y := by
  rw [wrapI_eq_bmod]; exact bmod_eq_self (by omega)

end Ntrip
