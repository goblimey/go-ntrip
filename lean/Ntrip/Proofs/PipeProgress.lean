import Ntrip.Proofs.PipeInv
/-! Deadlock freedom of the pipeline. -/
namespace Ntrip.Pipe
variable {M : Type}

theorem writer_can_move (c : Cfg M) (s : PS M) (hp : s.panic = false) (i : Nat) (hi : i < c.k)
    (hn : c.isNil i = false) (hnd : s.wDone i = false)
    (hidle : s.wCur i = none → s.buf i = [] → ∃ s', Step c s s') : ∃ s', Step c s s' := by
  cases hcur : s.wCur i with
  | some m => exact ⟨_, .wFinish s i m hp hi hn hcur⟩
  | none =>
    cases hb : s.buf i with
    | nil => exact hidle hcur hb
    | cons m rest => exact ⟨_, .wRecv s i m rest hp hi hn hnd hcur hb⟩

/-- **Deadlock freedom**: in every reachable state that is not final some goroutine can move,
    whatever the capacities and the schedule so far (main closes every non-nil channel). -/
theorem progress (c : Cfg M) (hc : c.WF) (hall : ∀ i, i < c.k → c.isNil i = false → c.closes i = true)
    {s : PS M} (h : Reach c s) (hnf : ¬ Final c s) : ∃ s', Step c s s' := by
  have hI := reach_inv c hc h
  have hp := hI.noPanic
  cases hd : s.dHold with
  | some j =>
    -- the fan-out holds a message
    obtain ⟨d1, d2, d3⟩ := hI.dh j hd
    by_cases hjk : j = c.k
    · exact ⟨_, .dNext s hp (hjk ▸ hd)⟩
    have hj : j < c.k := Nat.lt_of_le_of_ne d1 hjk
    cases hn : c.isNil j with
    | true => exact ⟨_, .dSkipNil s j hp hd hj hn⟩
    | false =>
      have hcl := hI.hold_open hd j
      have hm : c.out[s.fEmit - 1]? = some _ := List.getElem?_eq_getElem <|
        Nat.lt_of_lt_of_le (Nat.sub_one_lt_of_lt d2) (Nat.le_trans hI.fe (hc.prod_le ..))
      by_cases hroom : (s.buf j).length < c.cap j
      · exact ⟨_, .dSendBuf s j _ hp hd hj hn hcl hroom hm⟩
      · -- the channel is full (or unbuffered): the writer can move, or a rendezvous is possible
        have hnd : s.wDone j = false := Bool.eq_false_iff.2 fun hw => nomatch d3.symm.trans (hI.wd j hw).1
        exact writer_can_move c s hp j hj hn hnd fun hcur hb =>
          ⟨_, .dSendRv s j _ hp hd hj hn hcl (by simpa [hb] using hroom) hcur hnd hb hm⟩
  | none =>
    cases hdd : s.dDone with
    | false =>
      cases hm : s.mClosed with
      | true => exact ⟨_, .dSeeClosed s hp hm hd hdd⟩
      | false =>
        -- the framer or the reader can move
        by_cases hlt : s.fEmit < c.produced s.fRecv s.fSeenClosed
        · exact ⟨_, .fSend s hp hlt hm hd hdd⟩
        have heq := Nat.le_antisymm hI.fe (Nat.le_of_not_lt hlt)
        cases hsc : s.fSeenClosed with
        | true => exact ⟨_, .fClose s hp hsc (hsc ▸ heq) hm⟩
        | false =>
          have hw : fWantsRecv c s := ⟨hsc, hsc ▸ heq⟩
          cases hb : s.bClosed with
          | true => exact ⟨_, .fSeeClosed s hp hb hw⟩
          | false =>
            by_cases hr : s.rSent < c.nBytes
            · exact ⟨_, .rSend s hp hr hb hw⟩
            · exact ⟨_, .rClose s hp (Nat.le_antisymm hI.rLe (Nat.le_of_not_lt hr)) hb⟩
    | true =>
      -- the fan-out has returned: main closes the channels, the writers drain them
      by_cases hmi : s.mainIdx < c.k
      · cases hcl : c.closes s.mainIdx with
        | false => exact ⟨_, .mainSkip s hp hdd hmi hcl⟩
        | true => exact ⟨_, .mainClose s hp hdd hmi hcl (hc.closes_nonnil _ hcl) hI.main_open⟩
      have hmk := Nat.le_antisymm hI.mi (Nat.le_of_not_lt hmi)
      -- is there a writer still running?
      by_cases hw : ∀ i, i < c.k → c.isNil i = false → s.wDone i = true
      · cases hr : s.mainReturned with
        | false => exact ⟨_, .mainReturn s hp hdd hmk hr fun _ => hw⟩
        | true => exact absurd ⟨hr, hw⟩ hnf
      · simp only [Classical.not_forall, Bool.not_eq_true] at hw
        obtain ⟨i, hi, hn, hnd⟩ := hw
        -- its channel is closed, because main has closed all of them
        exact writer_can_move c s hp i hi hn hnd fun hcur hb =>
          ⟨_, .wSeeClosed s i hp hi hn hnd hcur hb ((hI.ch i).2 ⟨hmk ▸ hi, hall i hi hn⟩)⟩
end Ntrip.Pipe
