import Ntrip.Model.Frame
/-! The push-back channel model and the read loops of `FetchNextMessageFrame`: what one fetch returns, case by case
    (`fetchC_cases`), and that it consumes input (`fetchC_size`, on which the termination of `segment` rests). -/
namespace Ntrip

/-- The channel after `k` more bytes have been read from it. -/
def In.drop (s : In) (k : Nat) : In := ⟨s.pb.drop k, s.rest.drop (k - s.pb.length)⟩

theorem In.size_eq (s : In) : s.size = s.stream.length := by simp [In.size, In.stream]

theorem In.stream_drop (s : In) (k : Nat) : (s.drop k).stream = s.stream.drop k := by
  simp [In.drop, In.stream, List.drop_append]

theorem In.size_drop (s : In) (k : Nat) : (s.drop k).size = s.size - k := by
  simp [In.size_eq, In.stream_drop]

theorem In.size_drop_le (s : In) (k : Nat) : (s.drop k).size ≤ s.size := by
  rw [In.size_drop]; exact Nat.sub_le ..

theorem In.pb_drop (s : In) (k : Nat) : (s.drop k).pb = s.pb.drop k := rfl

theorem In.drop_zero (s : In) : s.drop 0 = s := by simp [In.drop]

theorem In.drop_succ (s : In) (k : Nat) : (s.drop 1).drop k = s.drop (k + 1) := by
  rcases s with ⟨_ | ⟨x, pb⟩, rest⟩ <;> simp [In.drop]

theorem In.drop_of_stream_nil {s : In} (h : s.stream = []) (k : Nat) : s.drop k = s := by
  obtain ⟨pb, rest⟩ := s
  obtain ⟨rfl, rfl⟩ := List.append_eq_nil_iff.mp h
  simp [In.drop]

theorem getNextByte_none {s : In} : getNextByte s = none ↔ s.stream = [] := by
  unfold getNextByte In.stream
  cases hp : s.pb <;> cases hr : s.rest <;> simp

theorem getNextByte_some {s s' : In} {b : UInt8} (h : getNextByte s = some (b, s')) :
    s.stream = b :: s'.stream ∧ s' = s.drop 1 := by
  rcases s with ⟨_ | ⟨x, pb⟩, _ | ⟨y, rest⟩⟩ <;> simp [getNextByte] at h <;> obtain ⟨rfl, rfl⟩ := h <;>
    simp [In.stream, In.drop]

theorem eat_spec (s : In) (acc : Bytes) :
    ((0xD3 : UInt8) ∉ s.stream ∧ eat s acc = (acc ++ s.stream, s.drop s.stream.length, false)) ∨
    (∃ j r, s.stream = j ++ 0xD3 :: r ∧ (0xD3 : UInt8) ∉ j ∧
      eat s acc = (acc ++ (j ++ [0xD3]), s.drop (j.length + 1), true)) := by
  fun_induction eat s acc with
  | case1 s acc h => simp [getNextByte_none.mp h, In.drop_zero]
  | case2 s acc s' h =>
    obtain ⟨hs, rfl⟩ := getNextByte_some h
    exact Or.inr ⟨[], s.drop 1 |>.stream, hs, by simp⟩
  | case3 s acc b s' h hb ih =>
    obtain ⟨hs, rfl⟩ := getNextByte_some h
    rcases ih with ⟨hc, he⟩ | ⟨j, r, hj, hnj, he⟩
    · exact Or.inl ⟨by simp [hs, hc, Ne.symm hb], by simp [he, hs, In.drop_succ]⟩
    · exact Or.inr ⟨b :: j, r, by simp [hs, hj], by simp [hnj, Ne.symm hb], by simp [he, In.drop_succ]⟩

theorem readMore_eq (n : Nat) (s : In) (frame : Bytes) :
    readMore n s frame = (frame ++ s.stream.take n, s.drop n, decide (n ≤ s.stream.length)) := by
  fun_induction readMore n s frame with
  | case1 s frame => simp [In.drop_zero]
  | case2 n s frame h =>
    have hs := getNextByte_none.mp h
    simp [hs, In.drop_of_stream_nil hs]
  | case3 n s frame b s' h ih =>
    obtain ⟨hs, rfl⟩ := getNextByte_some h
    simp [ih, hs, In.drop_succ]

theorem fetchPhase2_of_nil (f : Bytes) {s1 : In} (h : s1.stream = []) : fetchPhase2 f s1 = .junk f s1 := by
  simp [fetchPhase2, readMore, getNextByte_none.mpr h]

/-- One fetch, by what phase 1 (`eat`) finds. -/
theorem fetchC_cases (s : In) :
    (s.stream = [] ∧ fetchC s = .done) ∨
    (s.stream ≠ [] ∧ (0xD3 : UInt8) ∉ s.stream ∧ fetchC s = .junk s.stream (s.drop s.stream.length)) ∨
    (∃ r, s.stream = 0xD3 :: r ∧ fetchC s = fetchPhase2 [0xD3] (s.drop 1)) ∨
    (∃ j r, j ≠ [] ∧ (0xD3 : UInt8) ∉ j ∧ s.stream = j ++ 0xD3 :: r ∧
      fetchC s = .junk j (pushBack (s.drop (j.length + 1)) 0xD3)) := by
  rcases eat_spec s [] with ⟨hc, he⟩ | ⟨j, r, hs, hj, he⟩ <;> rw [List.nil_append] at he
  · by_cases hne : s.stream = []
    · exact Or.inl ⟨hne, by simp [fetchC, he, hne]⟩
    · -- one byte goes through phase 2, more are returned at once: the same either way
      have hlast : (s.stream.getLast? == some 0xD3) = false :=
        beq_eq_false_iff_ne.mpr fun h => hc (List.mem_of_getLast? h)
      have hnil : (s.drop s.stream.length).stream = [] := by simp [In.stream_drop]
      refine Or.inr (Or.inl ⟨hne, hc, ?_⟩)
      simp only [fetchC, he, Bool.not_false, Bool.true_and, List.isEmpty_iff, hne, hlast, fetchPhase2_of_nil _ hnil,
        ite_self, if_false, Bool.false_eq_true]
  · by_cases hj0 : j = []
    · subst hj0
      exact Or.inr (Or.inr (Or.inl ⟨r, hs, by simp [fetchC, he]⟩))
    · have hlen : (j ++ [0xD3]).length > 1 := by have := List.length_pos_iff.mpr hj0; simp; omega
      refine Or.inr (Or.inr (Or.inr ⟨j, r, hj0, hj, hs, ?_⟩))
      simp only [fetchC, he, Bool.not_true, Bool.false_and, Bool.false_eq_true, if_false]
      rw [if_pos hlen, if_pos (by simp), List.dropLast_concat]

def FetchC.sizeLe (n : Nat) : FetchC → Prop
  | .done => True
  | .junk _ s => s.size ≤ n
  | .frame _ s => s.size ≤ n

theorem pushBack_size (s : In) (b : UInt8) : (pushBack s b).size = s.size + 1 := by
  simp [pushBack, In.size]; omega

theorem phase3_size (f : Bytes) (len : Nat) {s2 : In} {n : Nat} (h : s2.size ≤ n) : (fetchPhase3 f len s2).sizeLe n := by
  simp only [fetchPhase3, readMore_eq]
  cases decide (len + 6 - f.length ≤ s2.stream.length) <;> exact Nat.le_trans (In.size_drop_le ..) h

theorem phase2_size (f : Bytes) {s1 : In} {n : Nat} (h : s1.size ≤ n) : (fetchPhase2 f s1).sizeLe n := by
  have h4 := Nat.le_trans (In.size_drop_le s1 4) h
  simp only [fetchPhase2, readMore_eq]
  cases decide (4 ≤ s1.stream.length) <;> dsimp only
  · exact h4
  · split
    · exact phase3_size _ _ h4
    · exact h4

theorem fetchC_size (s : In) : (fetchC s).sizeLe (s.size - 1) ∧ (fetchC s ≠ .done → 0 < s.size) := by
  rw [In.size_eq]
  rcases fetchC_cases s with ⟨_, he⟩ | ⟨hne, _, he⟩ | ⟨r, hs, he⟩ | ⟨j, r, hj0, _, hs, he⟩ <;> rw [he]
  · exact ⟨trivial, fun h => absurd rfl h⟩
  · have := List.length_pos_iff.mpr hne
    exact ⟨by rw [FetchC.sizeLe, In.size_drop, In.size_eq]; omega, fun _ => this⟩
  · exact ⟨phase2_size _ (by rw [In.size_drop, In.size_eq]; exact Nat.le_refl _), fun _ => by simp [hs]⟩
  · have := List.length_pos_iff.mpr hj0
    refine ⟨?_, fun _ => by simp [hs]; omega⟩
    rw [FetchC.sizeLe, pushBack_size, In.size_drop, In.size_eq, hs, List.length_append, List.length_cons]
    omega
end Ntrip
