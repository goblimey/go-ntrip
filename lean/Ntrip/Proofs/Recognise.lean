import Ntrip.Proofs.FrameSpec
import Ntrip.Spec.Segments
/-! List-level recognition theorem behind C03 and C12: first for segment lists without adjacent runs of
    other data, then, merging adjacent runs (`normalise`), for arbitrary segment lists. -/
namespace Ntrip

theorem streamOf_cons (s : Seg) (segs : List Seg) (tail : Bytes) :
    streamOf (s :: segs) tail = s.bytes ++ streamOf segs tail := by
  simp [streamOf]

theorem Seg.framed {crc : Bytes → Nat} {s : Seg} (hwf : s.WF crc) (hnj : s.isJunk = false) :
    Framed s.bytes ∧ msgOfFrame crc s.bytes = s.expected := by
  cases s with
  | junk j => cases hnj
  | frame f => exact ⟨hwf.framed, msgOfFrame_valid hwf⟩
  | corrupt f => exact ⟨(Corrupted.framed hwf).1, msgOfFrame_corrupt hwf⟩

theorem NoAdjacentJunk.tail {a : Seg} {l : List Seg} (h : NoAdjacentJunk (a :: l)) : NoAdjacentJunk l := by
  cases l with
  | nil => trivial
  | cons b r => exact h.2

theorem streamOf_head {crc : Bytes → Nat} {a : Seg} {segs : List Seg} {tail : Bytes} (hwf : ∀ s ∈ segs, s.WF crc)
    (htail : TruncTail crc tail) (ha : a.isJunk = true) (hadj : NoAdjacentJunk (a :: segs)) :
    streamOf segs tail = [] ∨ (streamOf segs tail).head? = some 0xD3 := by
  cases segs with
  | nil =>
    rcases htail with rfl | ⟨hne, f, hv, hpre, _⟩
    · exact Or.inl rfl
    · exact Or.inr (hv.framed.head?_of_prefix hne hpre)
  | cons b r =>
    have hb : b.isJunk = false := by simpa [ha] using hadj.1
    have hF := (Seg.framed (hwf b (by simp)) hb).1
    rw [streamOf_cons, List.head?_append, hF.head?]
    exact Or.inr rfl

theorem segmentS_seg (crc : Bytes → Nat) {s : Seg} (hs : s.WF crc) {rest : Bytes}
    (hrest : s.isJunk = true → rest = [] ∨ rest.head? = some 0xD3) :
    segmentS crc (s.bytes ++ rest) = s.expected :: segmentS crc rest := by
  cases s with
  | junk j => exact segmentS_junk crc (scan_junk_run hs.1 hs.2 (hrest rfl))
  | frame f | corrupt f =>
    obtain ⟨hF, hm⟩ := Seg.framed hs rfl
    rw [segmentS_frame crc (scan_framed hF rest), hm]

/-- C03 + C12 (list level): a stream made of valid frames, maximal 0xD3-free runs of other
    data and CRC-corrupted frames, optionally ending in a truncated frame, is delivered as
    exactly those segments, in order. -/
theorem segmentS_recognises_merged (crc : Bytes → Nat) (tail : Bytes) (htail : TruncTail crc tail) :
    ∀ (segs : List Seg), (∀ s ∈ segs, s.WF crc) → NoAdjacentJunk segs →
      segmentS crc (streamOf segs tail) = segs.map Seg.expected ++ expectedTail tail
  | [], _, _ => by
    rcases htail with rfl | ⟨hne, f, hv, hpre, hlen⟩
    · exact segmentS_nil crc
    · show segmentS crc tail = expectedTail tail
      rw [segmentS_junk crc (scan_trunc hv.framed hne hpre hlen), segmentS_nil, expectedTail,
        if_neg hne]
  | s :: segs, hwf, hadj => by
    have hwf' : ∀ x ∈ segs, x.WF crc := fun x hx => hwf x (List.mem_cons_of_mem _ hx)
    rw [streamOf_cons, segmentS_seg crc (hwf s (List.mem_cons_self ..)) fun hs => streamOf_head hwf' htail hs hadj,
      segmentS_recognises_merged crc tail htail segs hwf' hadj.tail]
    rfl

theorem normalise_stream (tail : Bytes) (segs : List Seg) :
    streamOf (normalise segs) tail = streamOf segs tail := by
  fun_induction normalise segs with
  | case1 | case2 => rfl
  | case3 rest x y ih => rw [ih]; simp [streamOf, Seg.bytes]
  | case4 a b rest _ ih => rw [streamOf_cons, ih, ← streamOf_cons]

theorem normalise_wf (crc : Bytes → Nat) (segs : List Seg) (hwf : ∀ s ∈ segs, s.WF crc) :
    ∀ s ∈ normalise segs, s.WF crc := by
  fun_induction normalise segs with
  | case1 | case2 => exact hwf
  | case3 rest x y ih =>
    simp only [List.forall_mem_cons] at hwf
    obtain ⟨⟨hx1, hx2⟩, ⟨-, hy2⟩, hr⟩ := hwf
    exact ih (List.forall_mem_cons.mpr ⟨⟨by simp [hx1], by simp [hx2, hy2]⟩, hr⟩)
  | case4 a b rest _ ih =>
    rw [List.forall_mem_cons] at hwf ⊢
    exact ⟨hwf.1, ih hwf.2⟩

theorem Seg.isJunk_iff {s : Seg} : s.isJunk = true ↔ ∃ x, s = .junk x := by
  cases s <;> simp [Seg.isJunk]

theorem normalise_head_isJunk (segs : List Seg) :
    (normalise segs).head?.map Seg.isJunk = segs.head?.map Seg.isJunk := by
  fun_induction normalise segs with
  | case1 | case2 => rfl
  | case3 rest x y ih => exact ih
  | case4 a b rest _ ih => rfl

theorem normalise_noAdjacent (segs : List Seg) : NoAdjacentJunk (normalise segs) := by
  fun_induction normalise segs with
  | case1 | case2 => trivial
  | case3 rest x y ih => exact ih
  | case4 a b rest hno ih =>
    have hh := normalise_head_isJunk (b :: rest)
    cases hn : normalise (b :: rest) with
    | nil => trivial
    | cons b' l' =>
      rw [hn] at ih hh
      refine ⟨fun ⟨ha, hb'⟩ => ?_, ih⟩
      obtain ⟨x, rfl⟩ := Seg.isJunk_iff.mp ha
      obtain ⟨y, rfl⟩ := Seg.isJunk_iff.mp (Option.some.inj hh ▸ hb')
      exact hno x y rfl rfl

theorem normalise_of_no_junk (l : List Seg) (h : ∀ s ∈ l, s.isJunk = false) : normalise l = l := by
  fun_induction normalise l with
  | case1 | case2 => rfl
  | case3 rest x y ih => cases h (.junk x) (by simp)
  | case4 a b rest _ ih => rw [ih fun s hs => h s (List.mem_cons_of_mem _ hs)]

/-- C03 + C12 for an arbitrary (not necessarily merged) segment list. -/
theorem segmentS_recognises (crc : Bytes → Nat) (tail : Bytes) (htail : TruncTail crc tail)
    (segs : List Seg) (hwf : ∀ s ∈ segs, s.WF crc) :
    segmentS crc (streamOf segs tail) = (normalise segs).map Seg.expected ++ expectedTail tail := by
  rw [← normalise_stream tail segs]
  exact segmentS_recognises_merged crc tail htail _ (normalise_wf crc segs hwf) (normalise_noAdjacent segs)

theorem segmentS_frames (crc : Bytes → Nat) (segs : List Seg) (hwf : ∀ s ∈ segs, s.WF crc)
    (hnj : ∀ s ∈ segs, s.isJunk = false) :
    segmentS crc (segs.map Seg.bytes).flatten = segs.map Seg.expected := by
  have h := segmentS_recognises crc [] (Or.inl rfl) segs hwf
  rwa [normalise_of_no_junk segs hnj, streamOf, expectedTail, if_pos rfl, List.append_nil, List.append_nil] at h
end Ntrip
