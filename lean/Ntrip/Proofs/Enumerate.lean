/-!
Complete enumeration of a finite range by binary splitting, so that kernel evaluation
(`decide +kernel`) stays shallow.  No property uses it: the table theorems of C20 go row by
row and symbolically off the keys (`Proofs/Tables.lean`).
-/
namespace Ntrip

/-- `p` holds on `[lo, lo+n)`. -/
def allRange (p : Nat → Bool) : Nat → Nat → Nat → Bool
  | 0, lo, n => (List.range n).all (fun i => p (lo + i))
  | fuel+1, lo, n =>
    if n ≤ 8 then (List.range n).all (fun i => p (lo + i))
    else allRange p fuel lo (n / 2) && allRange p fuel (lo + n / 2) (n - n / 2)

theorem all_range_sound (p : Nat → Bool) (lo n : Nat) (h : (List.range n).all (fun i => p (lo + i)) = true)
    (k : Nat) (h1 : lo ≤ k) (h2 : k < lo + n) : p k = true := by
  have := List.all_eq_true.1 h (k - lo) (List.mem_range.2 (by omega))
  rwa [Nat.add_sub_cancel' h1] at this

theorem allRange_sound (p : Nat → Bool) : ∀ fuel lo n, allRange p fuel lo n = true →
    ∀ k, lo ≤ k → k < lo + n → p k = true := by
  intro fuel lo n
  fun_induction allRange p fuel lo n with
  | case1 lo n => exact all_range_sound p lo n
  | case2 fuel lo n _ => exact all_range_sound p lo n
  | case3 fuel lo n _ ih1 ih2 =>
    intro h k h1 h2
    rw [Bool.and_eq_true] at h
    by_cases hk : k < lo + n / 2
    · exact ih1 h.1 k h1 hk
    · exact ih2 h.2 k (by omega) (by omega)

/-- All message types: the sentinels −2, −1 and the 4096 twelve-bit values. -/
def allTypes : List Int := (List.range 4098).map (fun (n : Nat) => (n : Int) - 2)

theorem mem_allTypes {t : Int} : t ∈ allTypes ↔ -2 ≤ t ∧ t ≤ 4095 := by
  simp only [allTypes, List.mem_map, List.mem_range]
  constructor
  · rintro ⟨n, hn, rfl⟩; omega
  · intro h; exact ⟨(t + 2).toNat, by omega, by omega⟩

theorem forall_types (p : Int → Bool)
    (h : allRange (fun n => p ((n : Int) - 2)) 12 0 4098 = true) : ∀ t ∈ allTypes, p t = true := by
  intro t ht
  obtain ⟨n, hn, rfl⟩ := List.mem_map.1 ht
  exact allRange_sound _ 12 0 4098 h n (Nat.zero_le n) (by simpa using hn)

end Ntrip
