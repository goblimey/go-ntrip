import Ntrip.Spec.MsmCodec
import Ntrip.Proofs.FieldsRoundTrip
/-!
The MSM decoder stage by stage, for every byte string (towards C07): each stage with a postcondition
`Res.Safe` (no panic, and what a success guarantees); `decodeMsm_safe` chains them.  Then the ranges
of the indices the attachment loop hands out.
-/
namespace Ntrip

/-! The extracted layouts are the standard's, with fields of one bit or more. -/
theorem hdrCols_std : hdrCols = some hdrStd := by decide
theorem satCols_std (k : MsmKind) : k.satCols = some (satStd k) := by cases k <;> decide
theorem sigCols_std (k : MsmKind) : k.sigCols = some (sigStd k) := by cases k <;> decide
theorem width_hdrStd : widthOf hdrStd = 169 := by decide
theorem hdrStd_pos : ∀ c ∈ hdrStd, 1 ≤ c.2 := by decide
theorem satStd_pos (k : MsmKind) : ∀ c ∈ satStd k, 1 ≤ c.2 := by cases k <;> decide
theorem sigStd_pos (k : MsmKind) : ∀ c ∈ sigStd k, 1 ≤ c.2 := by cases k <;> decide
theorem sigStd_width_pos (k : MsmKind) : 0 < widthOf (sigStd k) := by cases k <;> decide

theorem getMSMHeader_safe (bs : Bytes) : (getMSMHeader bs).Safe fun (h, pos) =>
    pos + 24 ≤ 8 * bs.length ∧ h.cells = cellsOfMask h.cellMask h.sats.length h.sigs.length ∧
    h.sats.length * h.sigs.length ≤ 64 := by
  unfold getMSMHeader
  rw [hdrCols_std]
  simp only [Gen.header_minBitsInHeader, width_hdrStd]
  refine .ite_err fun _ => ?_
  obtain ⟨vals, hv⟩ := readFields_ok bs hdrStd 24 hdrStd_pos (by rw [width_hdrStd]; omega)
  rw [hv, Res.ok_bind]
  refine .ite_err fun _ => .ite_err fun h64 => .ite_err fun _ => ?_
  rw [rdU_ok (by omega)]
  refine ⟨?_, rfl, Nat.le_of_not_lt h64⟩
  -- leader, fixed header, cell mask, and the 24 CRC bits the guard (`24 + 24 + 169 + lenCell`) asks for on top
  show 24 + 169 + _ + 24 ≤ _
  omega

theorem getSatelliteCells_safe (k : MsmKind) (bs : Bytes) (start nsat : Nat) :
    (getSatelliteCells k bs start nsat).Safe fun _ =>
      start + nsat * widthOf (satStd k) + crcSlack k ≤ 8 * bs.length := by
  unfold getSatelliteCells
  rw [satCols_std]
  refine .ite_err fun _ => ?_
  obtain ⟨vs, hvs⟩ := readColumns_ok bs nsat (satStd k) start (satStd_pos k) (by omega)
  rw [hvs]
  show _ ≤ _
  omega

/-- `GetSignalCells` computes the number of cells the rest of the frame can hold by this integer division. -/
theorem le_cellsAvailable {len pos w n : Nat} (hw : 0 < w) (hp : pos ≤ 8 * len) :
    n ≤ (((len : Int) * 8 - pos) / (w : Nat)).toNat ↔ pos + n * w ≤ 8 * len := by
  rw [show (len : Int) * 8 - pos = ((8 * len - pos : Nat) : Int) by omega, ← Int.natCast_ediv,
    Int.toNat_natCast, Nat.le_div_iff_mul_le hw]
  exact Nat.le_sub_iff_add_le' hp

theorem ite_lt_eq_min (a b : Nat) : (if a < b then a else b) = min a b := by
  rcases Nat.lt_or_ge a b with h | h
  · rw [if_pos h, Nat.min_eq_left (Nat.le_of_lt h)]
  · rw [if_neg (Nat.not_lt.2 h), Nat.min_eq_right h]

/-- `hp` is what the satellite guard established; with it the `uint` subtractions of the Go code do not wrap. -/
theorem getSignalCells_safe (k : MsmKind) (bs : Bytes) (pos : Nat) (h : MsmHeader)
    (hp : pos + crcSlack k ≤ 8 * bs.length) :
    (getSignalCells k bs pos h).Safe fun v => ∃ colsV n, v = attach h.sats h.sigs colsV n h.cells 0 0 := by
  unfold getSignalCells
  rw [sigCols_std]
  simp only [ite_lt_eq_min]
  rw [if_neg (by omega)]
  refine .ite_err fun _ => .ite_err fun _ => ?_
  obtain ⟨colsV, hc⟩ := readColumns_ok bs _ (sigStd k) pos (sigStd_pos k)
    ((le_cellsAvailable (sigStd_width_pos k) (by omega)).1 (Nat.min_le_left _ _))
  rw [hc]
  exact ⟨colsV, _, rfl⟩

/-- **No MSM frame can make the decoders index out of range**, and a decoded message has the cell matrix of
    its masks, one row per satellite, and the signal cells attached along that matrix. -/
theorem decodeMsm_safe (k : MsmKind) (bs : Bytes) : (decodeMsm k bs).Safe fun m =>
    m.hdr.cells = cellsOfMask m.hdr.cellMask m.hdr.sats.length m.hdr.sigs.length ∧
    ∃ satV colsV n, m.sats = transpose satV m.hdr.sats.length ∧
      m.sigs = attach m.hdr.sats m.hdr.sigs colsV n m.hdr.cells 0 0 := by
  unfold decodeMsm
  refine (getMSMHeader_safe bs).bind ?_
  rintro ⟨h, pos⟩ - ⟨hfit, hcells, -⟩
  refine .ite_err fun _ => ?_
  rw [satCols_std]
  refine (getSatelliteCells_safe k bs pos _).bind fun satV _ hsat => ?_
  refine (getSignalCells_safe k bs _ h (by omega)).bind ?_
  rintro _ - ⟨colsV, n, rfl⟩
  exact ⟨hcells, satV, colsV, n, rfl, rfl⟩

theorem attachRow_indices (sigs : List Nat) (satIdx satId : Nat) (rows : List (List Int)) (n : Nat)
    (row : List Bool) (j c : Nat) : ∀ cell ∈ (attachRow sigs satIdx satId rows n row j c).1,
      cell.satIdx = satIdx ∧ j ≤ cell.sigIdx ∧ cell.sigIdx < j + row.length ∧ cell.cellIdx < n := by
  fun_induction attachRow sigs satIdx satId rows n row j c with
  | case1 => simp
  | case2 b rest j c hc cell0 more c' heq ih =>
    simp only [Bool.and_eq_true, decide_eq_true_eq] at hc
    simp only [heq, List.mem_cons, List.length_cons, forall_eq_or_imp] at ih ⊢
    exact ⟨⟨rfl, Nat.le_refl _, by show j < _; omega, hc.1⟩, fun cell h => by have := ih cell h; omega⟩
  | case3 b rest j c hc ih =>
    intro cell h
    have := ih cell h
    simp only [List.length_cons]; omega

theorem attach_indices (sats sigs : List Nat) (rows : List (List Int)) (n nsig : Nat)
    (cells : List (List Bool)) (i c : Nat) (hrow : ∀ row ∈ cells, row.length = nsig) :
    ∀ r ∈ attach sats sigs rows n cells i c, ∀ cell ∈ r,
      i ≤ cell.satIdx ∧ cell.satIdx < i + cells.length ∧ cell.sigIdx < nsig ∧ cell.cellIdx < n := by
  fun_induction attach sats sigs rows n cells i c with
  | case1 => simp
  | case2 row rest i c more c' heq ih =>
    simp only [List.mem_cons, List.length_cons, forall_eq_or_imp] at hrow ⊢
    refine ⟨fun cell hcell => ?_, fun r hr cell hcell => ?_⟩
    · have := attachRow_indices sigs i (sats.getD i 0) rows n row 0 c cell (heq ▸ hcell)
      omega
    · have := ih hrow.2 r hr cell hcell
      omega

theorem cellsOfMask_shape (mask nsat nsig : Nat) :
    (cellsOfMask mask nsat nsig).length = nsat ∧ ∀ row ∈ cellsOfMask mask nsat nsig, row.length = nsig := by
  unfold cellsOfMask
  refine ⟨by simp, ?_⟩
  intro row hrow
  simp only [List.mem_map, List.mem_range] at hrow
  obtain ⟨i, _, rfl⟩ := hrow
  simp
end Ntrip
