import Ntrip.Proofs.TimeHist
/-!
# C17 — any start time within the week of the first observation gives correct times

Same model as C06.  `Pre T {} evs` only asks that, per constellation, the first observation
lies in the same constellation week as the start time `T` — before, at or after `T` — and that
later observations follow as in C06.
-/
namespace Ntrip.C17

/-- **C17.** For every start time `T` and every history whose first observation (per
    constellation) lies in the constellation week of `T` — earlier or later than `T` — the
    reported times and week starts are the true ones. -/
theorem times_true_any_start (T : Int) (evs : List Ev) (h : Pre T {} evs) :
    runTimes (newState T) evs = expectedTimes T {} evs :=
  times_correct T evs {} (newState T) (inv_new T) h

/-- The precondition does not mention the order of `T` and the first observation: -/
theorem admissible_first_iff (T : Int) (c : Constellation) (u : Int) :
    Admissible T {} c u ↔ trueWeekStart c u = trueWeekStart c T := by
  rw [Admissible, Last.get_empty]

/-- Two start times in the same constellation weeks are interchangeable: the handler reports
    the same for every history (e.g. any date of the week when displaying a recorded file). -/
theorem start_time_irrelevant_within_week (T1 T2 : Int) (evs : List Ev)
    (hw : ∀ c, trueWeekStart c T1 = trueWeekStart c T2) (h : Pre T1 {} evs) :
    runTimes (newState T1) evs = runTimes (newState T2) evs := by
  -- the two handlers start in the same state, so this holds whether or not `h` does
  rw [newState_congr hw]

/-! ### Non-vacuity (tests): start Wed 2023-05-10 00:00 UTC, first GPS observation Mon
    2023-05-08 00:00:00 UTC (earlier than the start time), then Thursday. -/
def sample : List Ev := [.obs .gps true 1683504000000, .obs .gps true 1683763200000]

example : Pre 1683676800000 {} sample := by
  simp only [sample, Pre, Admissible, Last.get, Last.set, trueWeekStart, weekPos, weekBase]
  decide

example : runTimes (newState 1683676800000) sample =
    [(.ok 1683504000000, some 1683417582000), (.ok 1683763200000, some 1683417582000)] := by decide +kernel

end Ntrip.C17
