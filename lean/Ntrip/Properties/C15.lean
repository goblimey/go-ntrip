import Ntrip.Model.Analyse
/-!
# C15 — decoding and display are deterministic and free of hidden state

In the model, decoding is a function: `getMessageCore crc bytes` (type, raw bytes, framing
error) and `analyse typ raw` (the decoded fields) take **no** handler state at all; the only
state-dependent part of `GetMessage` is `addTime`, which touches nothing but the MSM time
lines.  That this functional shape is faithful — no package-level variable is written
outside `init`, nothing is cached between calls — is the tie `tie_no_hidden_state`,
regenerated from the source on every run, plus the correspondence runs (same frame first /
after other frames / by several handlers in parallel / displayed repeatedly, under the race
detector in the thorough tier).  Aliasing and data races are runtime facts the model cannot
exhibit: that part is *partial*.
-/
namespace Ntrip.C15

/-- Decoding never changes the raw bytes it is given: the message keeps exactly the bytes of
    the frame and its type (the time lines are added around them). -/
theorem time_lines_keep_raw (st : TState) (bs : Bytes) (m : Msg) :
    (addTime st bs m).1.raw = m.raw ∧ (addTime st bs m).1.typ = m.typ := by
  unfold addTime
  split
  · split
    · exact ⟨rfl, rfl⟩
    · simp only
      cases (msmTime st m.typ (getBitsU bs 48 30)).1 <;> exact ⟨rfl, rfl⟩
  · exact ⟨rfl, rfl⟩

/-- Type, raw bytes and framing verdict of a message do not depend on the handler's state,
    i.e. on which frames were processed before. -/
theorem decode_state_independent (crc : Bytes → Nat) (st₁ st₂ : TState) (bs : Bytes) :
    (match (getMessage crc st₁ bs).1, (getMessage crc st₂ bs).1 with
     | .msg m₁, .msg m₂ => m₁.typ = m₂.typ ∧ m₁.raw = m₂.raw
     | .empty, .empty => True
     | _, _ => False) := by
  unfold getMessage
  cases h : getMessageCore crc bs with
  | empty => simp
  | msg m =>
    simp only
    obtain ⟨a1, a2⟩ := time_lines_keep_raw st₁ bs m
    obtain ⟨b1, b2⟩ := time_lines_keep_raw st₂ bs m
    exact ⟨by rw [a2, b2], by rw [a1, b1]⟩

/-- The time state only matters for MSM messages: for every other message `GetMessage`
    returns the same message whatever was processed before, and leaves the state alone. -/
theorem non_msm_fully_state_independent (crc : Bytes → Nat) (st₁ st₂ : TState) (bs : Bytes) (m : Msg)
    (h : getMessageCore crc bs = .msg m) (hm : isMSM m.typ = false) :
    (getMessage crc st₁ bs).1 = (getMessage crc st₂ bs).1 ∧ (getMessage crc st₁ bs).2 = st₁ := by
  unfold getMessage addTime
  simp [h, hm]

/-- Full decoding is a function of the message type and raw bytes only (it does not even take
    the handler), so it is the same first or after any other frames, in one handler or in many. -/
theorem analyse_depends_on_frame_only (typ : Int) (raw : Bytes) (r₁ r₂ : Res Readable)
    (h₁ : r₁ = analyse typ raw) (h₂ : r₂ = analyse typ raw) : r₁ = r₂ := by rw [h₁, h₂]

/-! Non-vacuity (tests): two different histories, same frame. -/
example : (getMessage crc24q (newState 0) [0xD3, 0, 2, 0x3E, 0xD0, 0xA4, 0xDF, 0x00]).1 =
    (getMessage crc24q (newState 1683979200000) [0xD3, 0, 2, 0x3E, 0xD0, 0xA4, 0xDF, 0x00]).1 := by decide +kernel

end Ntrip.C15
