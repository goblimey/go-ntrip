import Ntrip.Generated.Funcs
import Ntrip.Proofs.Bits
/-!
# C14 — bit-field extraction returns exactly the addressed bits, signed or unsigned

Model: `Ntrip.getBitsU?` / `Ntrip.getBitsI?` (`Model/Bits.lean`), the `uint64` loop of
`utils.GetBitsAsUint64` and the wrapped `int64` arithmetic of `utils.GetBitsAsInt64`.
Spec: `specU` (big-endian value of the addressed bits) and `specI` (its two's complement).
-/
namespace Ntrip.C14

/-- The field `[pos, pos+len)` lies inside the buffer. -/
def Inside (buf : Bytes) (pos len : Nat) : Prop := pos + len ≤ 8 * buf.length

/-- Unsigned extraction: every buffer, every bit offset, every width 1…64 inside the buffer. -/
theorem unsigned_exact (buf : Bytes) (pos len : Nat) (_h1 : 1 ≤ len) (h64 : len ≤ 64)
    (hin : Inside buf pos len) :
    getBitsU? buf pos len = some (specU buf pos len) := by
  rw [getBitsU?_eq hin, getBitsU_eq _ _ _ h64]

/-- Signed extraction: widths 2…64, two's complement of the same bits (including the minimum
    value of every width and the `len = 64` case where `-1 * int64(1<<63)` wraps). -/
theorem signed_exact (buf : Bytes) (pos len : Nat) (h2 : 2 ≤ len) (h64 : len ≤ 64)
    (hin : Inside buf pos len) :
    getBitsI? buf pos len = some (specI buf pos len) := by
  rw [getBitsI?_eq (by omega) hin, getBitsI_eq _ _ _ h2 h64]

/-- The spec is the binary number whose digits are the addressed bits, most significant first. -/
theorem spec_digits (buf : Bytes) (pos n : Nat) :
    specU buf pos (n+1) = bitAt buf pos * 2^n + specU buf (pos+1) n := specU_head buf pos n

/-- Not influenced by any bit outside the field: two buffers (of any lengths) that agree on
    the addressed bits give the same unsigned … -/
theorem unsigned_independent (b1 b2 : Bytes) (pos len : Nat) (h1 : 1 ≤ len) (h64 : len ≤ 64)
    (hin1 : Inside b1 pos len) (hin2 : Inside b2 pos len)
    (hagree : ∀ i, i < len → bitAt b1 (pos + i) = bitAt b2 (pos + i)) :
    getBitsU? b1 pos len = getBitsU? b2 pos len := by
  rw [unsigned_exact _ _ _ h1 h64 hin1, unsigned_exact _ _ _ h1 h64 hin2,
    specU_congr b1 b2 pos len hagree]

/-- … and the same signed result. -/
theorem signed_independent (b1 b2 : Bytes) (pos len : Nat) (h2 : 2 ≤ len) (h64 : len ≤ 64)
    (hin1 : Inside b1 pos len) (hin2 : Inside b2 pos len)
    (hagree : ∀ i, i < len → bitAt b1 (pos + i) = bitAt b2 (pos + i)) :
    getBitsI? b1 pos len = getBitsI? b2 pos len := by
  rw [signed_exact _ _ _ h2 h64 hin1, signed_exact _ _ _ h2 h64 hin2, specI_eq_bmod _ _ _ (by omega),
    specI_eq_bmod _ _ _ (by omega), specU_congr b1 b2 pos len hagree]

/-- Does not read outside the field: the read succeeds whenever the field is inside the
    buffer, whatever follows or precedes it (no byte beyond `(pos+len-1)/8` is indexed). -/
theorem reads_only_field (buf extra : Bytes) (pos len : Nat) (h1 : 1 ≤ len) (h64 : len ≤ 64)
    (hin : Inside buf pos len) :
    getBitsU? (buf ++ extra) pos len = getBitsU? buf pos len := by
  have hin' : Inside (buf ++ extra) pos len := by
    unfold Inside at *; rw [List.length_append]; omega
  exact unsigned_independent _ _ _ _ h1 h64 hin' hin fun i hi =>
    bitAt_append_left buf extra _ (by unfold Inside at hin; omega)

/-- Range of the results. -/
theorem unsigned_range (buf : Bytes) (pos len : Nat) : specU buf pos len < 2^len :=
  specU_lt buf pos len

/-- Range of the signed result: the two's complement of `n+1` bits lies in `[-2^n, 2^n)`, for every
    buffer and position (so the minimum value `-2^n` of each width is reached and nothing below). -/
theorem signed_range (buf : Bytes) (pos n : Nat) :
    -(2^n : Int) ≤ specI buf pos (n+1) ∧ specI buf pos (n+1) < 2^n := by
  have h1 := Int.le_bmod (x := specU buf pos (n+1)) (Nat.two_pow_pos (n+1))
  have h2 := Int.bmod_lt (x := specU buf pos (n+1)) (Nat.two_pow_pos (n+1))
  rw [specI_eq_bmod buf pos (n+1) (by omega)]
  rw [Nat.pow_succ] at h1 h2 ⊢
  push_cast at h1 h2
  omega

/-- … and therefore of what the model of `GetBitsAsInt64` returns for every field of 2…64 bits
    inside the buffer: a value of the width's two's-complement range, never outside it. -/
theorem signed_result_range (buf : Bytes) (pos n : Nat) (h1 : 1 ≤ n) (h64 : n + 1 ≤ 64)
    (hin : Inside buf pos (n+1)) :
    ∃ v, getBitsI? buf pos (n+1) = some v ∧ -(2^n : Int) ≤ v ∧ v < 2^n :=
  ⟨specI buf pos (n+1), signed_exact buf pos (n+1) (by omega) h64 hin, signed_range buf pos n⟩

/-- Non-vacuity (a test): the minimum of a 10-bit field is reached. -/
example : specI [0x80, 0x00] 0 10 = -(2^9 : Int) := by decide

/-! Non-vacuity: concrete, non-trivial instances (these are tests, labelled as such). -/
example : Inside [0xd3, 0x00, 0x8a, 0x43] 14 10 := by unfold Inside; decide
example : getBitsU? [0xd3, 0x00, 0x8a, 0x43] 14 10 = some 138 := by decide
example : getBitsI? [0xff, 0x80, 0x00] 7 10 = some (-256) := by decide
example : getBitsI? [0x80, 0, 0, 0, 0, 0, 0, 0] 0 64 = some (-9223372036854775808) := by decide +kernel
example : getBitsU? [0xd3] 4 8 = none := by decide

/-- **Translator tie**: the Lean function that `extract/translate.go` regenerates on every run
    from the body of the loop of `GetBitsAsUint64` (index, shift, mask, accumulate - in wrapping
    64-bit arithmetic) is the model's loop step, for every buffer, position and accumulator.  (The
    loop header `for i := pos; i < pos+len; i++` is pinned by the guards tie.) -/
theorem translated_loop_body (buf : Bytes) (pos len acc k : Nat) :
    Gen.fn_utils_GetBitsAsUint64_body (buf.map (·.toNat)) pos len (pos + k) acc = stepU buf pos acc k := by
  unfold Gen.fn_utils_GetBitsAsUint64_body stepU bitAt
  simp only [Go64.divU, Go64.modU, Go64.shrU, Go64.andU, Go64.orU, Go64.shlU]
  rw [idx_map, subU_of_le 7 _ (by omega) (by decide), Nat.or_mod_two_pow]
  cases buf[(pos + k) / 8]? with
  | none => simp
  | some b =>
    simp only [Nat.and_one_is_mod]
    rw [Nat.mod_eq_of_lt (a := _ % 2) (by omega)]

/-- **Translator tie, signed read**: the two's-complement arithmetic of `GetBitsAsInt64` (`mask`,
    the weights of the top and of the lower bits, their wrapped difference) is regenerated from
    the `if negative { … }` branch of the source on every run; the model's signed read is that
    code applied to the two unsigned reads, for every buffer, position and length from 2 up to
    what a `uint` holds.  (The translator also checks that the statements around the branch are
    the two reads and the final `int64(uval)`.) -/
theorem translated_signed_branch (buf : Bytes) (pos len : Nat) (h2 : 2 ≤ len) (h : len < 2 ^ 64) :
    getBitsI buf pos len =
      if getBitsU buf pos 1 == 1 then Gen.fn_utils_GetBitsAsInt64_neg (getBitsU buf pos len) len
      else toI64 (getBitsU buf pos len) := by
  unfold getBitsI Gen.fn_utils_GetBitsAsInt64_neg
  simp only [Go64.addI, Go64.mulI, Go64.andU, Go64.shlU, Go64.notU, subU_of_le len 2 h2 h, h2, if_true]
  rfl

/-- Non-vacuity (a test). -/
example : Gen.fn_utils_GetBitsAsInt64_neg 1023 10 = -1 ∧ Gen.fn_utils_GetBitsAsInt64_neg 512 10 = -512 := by decide

end Ntrip.C14
