import Ntrip.Model.Classify
import Ntrip.Proofs.Tables
/-!
# C20 — message-type classification is total and consistent across the library

Every theorem below holds for **every** integer message type `t` (hence for all 4096
twelve-bit types and the sentinels −1, −2): the classification functions are lookups in the
tables that `/verif/extract` regenerates from the current source on every run; each table is
checked row by row (by evaluation, the whole table) and its behaviour off the keys symbolically.
Where the code is a fixed expression rather than a table (`MSM = MSM4 || MSM7`, the decoder
gates, the title fallback) its extracted shape is pinned by an equality obligation.
-/
namespace Ntrip.C20

def msm4Spec : List Int := [1074, 1084, 1094, 1104, 1114, 1124, 1134]
def msm7Spec : List Int := [1077, 1087, 1097, 1107, 1117, 1127, 1137]

def nameSpec (t : Int) : String :=
  if t = 1074 ∨ t = 1077 then "GPS" else if t = 1084 ∨ t = 1087 then "Glonass"
  else if t = 1094 ∨ t = 1097 then "Galileo" else if t = 1104 ∨ t = 1107 then "SBAS"
  else if t = 1114 ∨ t = 1117 then "QZSS" else if t = 1124 ∨ t = 1127 then "Beidou"
  else if t = 1134 ∨ t = 1137 then "NavIC/IRNSS" else "unknown constellation"

/-- Exactly the seven types 1074 … 1134 ending in 4 are MSM4. -/
theorem msm4_set (t : Int) : isMSM4 t = msm4Spec.contains t :=
  contains_congr _ _ (by decide) (by decide) t

/-- Exactly the seven types 1077 … 1137 ending in 7 are MSM7. -/
theorem msm7_set (t : Int) : isMSM7 t = msm7Spec.contains t :=
  contains_congr _ _ (by decide) (by decide) t

theorem msm_set (t : Int) : isMSM t = (msm4Spec ++ msm7Spec).contains t := by
  simp only [isMSM, msm4_set, msm7_set, List.contains_eq_mem, List.mem_append, Bool.decide_or]

/-- The predicates are map lookups of the assigned keys and `MSM` is their disjunction. -/
theorem msm_shapes :
    Gen.utils_MSM4_shape = "MSM4MessageTypes[messageType]; return prs" ∧
    Gen.utils_MSM7_shape = "MSM7MessageTypes[messageType]; return prs" ∧
    Gen.utils_MSM_shape = "return MSM4()||MSM7()" := ⟨rfl, rfl, rfl⟩

/-- Only the fourteen MSM types carry an extracted timestamp (`addTime` reads one iff `isMSM`). -/
theorem timestamp_only_msm (st : TState) (bs : Bytes) (m : Msg) (h : isMSM m.typ = false) :
    (addTime st bs m).1 = MsgT.ofMsg m ∧ (addTime st bs m).2 = st := by
  unfold addTime; simp [h]

/-- Each of the fourteen maps to its constellation name, everything else to "unknown constellation". -/
theorem constellation_names (t : Int) : constellation t = nameSpec t := by
  refine lookup_getD_eq _ _ nameSpec rfl (fun t ht => ?_) t
  simp only [List.map_cons, List.map_nil, List.mem_cons, List.not_mem_nil, or_false, not_or] at ht
  simp [nameSpec, ht]

/-- The MSM header reader accepts exactly the MSM types. -/
theorem header_accepts_iff_msm (t : Int) : headerAccepts t = isMSM t := headerAccepts_eq_isMSM t

/-- Each decoder family is gated by its own predicate. -/
theorem decoder_gates :
    Gen.msg4_GetMessage_gate = "!utils.MSM4()" ∧ Gen.msg7_GetMessage_gate = "!utils.MSM7()" := ⟨rfl, rfl⟩

/-- The extracted shape of `Analyse`'s switch, clause by clause. -/
theorem analyse_table :
    analyseTable = [(.isMsm4, .msm4), (.isMsm7, .msm7), (.eq1005, .t1005), (.eq1006, .t1006),
      (.eq1230, .text), (.dflt, .text)] := by decide +kernel

/-- Full decoding is attempted for exactly MSM4, MSM7, 1005 and 1006, by the right decoder. -/
theorem analyse_dispatch (t : Int) :
    analyseDecoder t =
      (if isMSM4 t then .msm4 else if isMSM7 t then .msm7
       else if t = 1005 then .t1005 else if t = 1006 then .t1006 else .text) := by
  simp only [analyseDecoder, analyse_table, analyseRows, ACond.fires, beq_iff_eq, ite_self]

/-- The time conversion and start-of-week dispatches cover the same eight types (GPS, GLONASS,
    Galileo, BeiDou in both resolutions), all of them MSM. -/
def timeSpec (t : Int) : String :=
  if t = 1074 ∨ t = 1077 then "getUTCFromGPSTime" else if t = 1084 ∨ t = 1087 then "getUTCFromGlonassTime"
  else if t = 1094 ∨ t = 1097 then "getUTCFromGalileoTime" else if t = 1124 ∨ t = 1127 then "getUTCFromBeidouTime"
  else "error"

theorem time_dispatch (t : Int) : timeMethod t = timeSpec t := by
  refine lookup_getD_eq _ _ timeSpec rfl (fun t ht => ?_) t
  simp only [List.map_cons, List.map_nil, List.mem_cons, List.not_mem_nil, or_false, not_or] at ht
  simp [timeSpec, ht]

/-- Every type, known or unknown, has a non-empty title: every title in the table is
    non-empty and unknown types get the fallback text "message type %d is not known". -/
theorem title_nonempty (t : Int) : titleNonEmpty t = true := by
  unfold titleNonEmpty
  split
  · split
    · exact Bool.or_true _
    · rfl
  · contradiction

theorem title_table_nonempty :
    (Gen.utils_titleKeys.getD []).all (fun kv => kv.2) = true ∧
    Gen.utils_title_fallback = "if len()==0 {title:=fmt.Sprintf(); result:=?; return &result}" :=
  ⟨by decide, rfl⟩

/-- No type is both MSM4 and MSM7. -/
theorem msm4_msm7_disjoint (t : Int) : ¬ (isMSM4 t = true ∧ isMSM7 t = true) := by
  rw [msm4_set, msm7_set, List.contains_eq_mem, List.contains_eq_mem, decide_eq_true_eq, decide_eq_true_eq]
  exact fun ⟨h4, h7⟩ => (by decide : ∀ x ∈ msm4Spec, x ∉ msm7Spec) t h4 h7

/-- Every MSM type lies in 1074 … 1137 and ends in 4 or 7 (so no type outside the 12-bit range,
    and in particular not the non-RTCM sentinel -1, is classified as MSM). -/
theorem msm_range (t : Int) (h : isMSM t = true) : 1074 ≤ t ∧ t ≤ 1137 ∧ (t % 10 = 4 ∨ t % 10 = 7) := by
  rw [msm_set, List.contains_eq_mem, decide_eq_true_eq] at h
  exact (by decide : ∀ x ∈ msm4Spec ++ msm7Spec, 1074 ≤ x ∧ x ≤ 1137 ∧ (x % 10 = 4 ∨ x % 10 = 7)) t h

/-! Non-vacuity (tests). -/
example : isMSM4 1074 = true ∧ isMSM7 1074 = false ∧ analyseDecoder 1127 = .msm7 := by decide +kernel
example : constellation 1137 = "NavIC/IRNSS" ∧ constellation 1005 = "unknown constellation" := ⟨rfl, rfl⟩
example : headerAccepts 1104 = true ∧ headerAccepts 1075 = false ∧ headerAccepts (-1) = false := by decide +kernel

end Ntrip.C20
