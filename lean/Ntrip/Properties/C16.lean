import Ntrip.Proofs.PipeProgress
import Ntrip.Proofs.PipeTerm
import Ntrip.Properties.C11
/-!
# C16 — rtcmlogger passes its input through unchanged and records an identical copy

rtcmlogger's `start`: the copy loop `readAndWrite` reads a block from standard input, writes
it to standard output, and sends a copy on an unbuffered channel to the `recorder` goroutine,
which appends it to the day's record file; after end of input `start` closes the channel and
waits for the recorder, then the process exits.  The goroutine/channel part is the pipeline
transition system (`Ntrip.Pipe`) with one writer on an unbuffered channel, the blocks playing
the role of the messages; the copy loop itself is sequential.
-/
namespace Ntrip.C16
open Ntrip.Pipe

/-- The sequential copy loop over the blocks `Read` returned (empty reads are skipped):
    what it wrote to standard output and what it sent to the recorder. -/
def copyLoop : List Bytes → Bytes × List Bytes
  | [] => ([], [])
  | blk :: rest =>
    let (out, sent) := copyLoop rest
    if blk.isEmpty then (out, sent) else (blk ++ out, blk :: sent)

/-- Standard output is identical to standard input, however the input is chunked; and the
    recorder is sent exactly the same bytes, in order. -/
theorem stdout_eq_input : ∀ blocks : List Bytes,
    (copyLoop blocks).1 = blocks.flatten ∧ (copyLoop blocks).2.flatten = blocks.flatten := by
  intro blocks
  fun_induction copyLoop blocks <;> simp_all

/-- The recorder leg: one writer (the recorder) on an unbuffered channel; `start` closes the
    channel and waits for the recorder before the process exits. -/
def loggerCfg (blocks : List Bytes) : Cfg Bytes :=
  { nBytes := 0, out := (copyLoop blocks).2, produced := fun _ b => if b then (copyLoop blocks).2.length else 0,
    k := 1, cap := fun _ => 0, isNil := fun _ => false, closes := fun _ => true, waits := true }

theorem loggerCfg_wf (blocks : List Bytes) : (loggerCfg blocks).WF :=
  ⟨fun _ => (flush_timing _).1, fun _ _ b b' _ => (flush_timing _).2 b b', rfl, fun _ _ => rfl⟩

/-- **Once the program has ended, the record holds the complete input**: in every reachable
    state in which `start` has returned (the process exits), under every interleaving of the
    copy loop and the recorder and every write latency, the bytes the recorder has written are
    exactly the input. -/
theorem exit_record_complete (blocks : List Bytes) {s} (h : Reach (loggerCfg blocks) s)
    (hr : s.mainReturned = true) : (s.handled 0).flatten = blocks.flatten := by
  rw [returned_all_written _ (loggerCfg_wf blocks) rfl h hr 0 Nat.one_pos rfl]
  exact (stdout_eq_input blocks).2

/-- Recording never blocks the pass-through for ever: some goroutine can always move until
    everything has finished, and every schedule is finite. -/
theorem logger_progress (blocks : List Bytes) {s} (h : Reach (loggerCfg blocks) s)
    (hnf : ¬ Final (loggerCfg blocks) s) : ∃ s', Step (loggerCfg blocks) s s' :=
  progress _ (loggerCfg_wf blocks) (by intro i _ _; rfl) h hnf

theorem logger_terminates (blocks : List Bytes) {s s'} (h : Reach (loggerCfg blocks) s)
    (hs : Step (loggerCfg blocks) s s') : measure (loggerCfg blocks) s' < measure (loggerCfg blocks) s :=
  terminates _ (loggerCfg_wf blocks) h hs

/-- Without the wait the last block can be missing at exit (the shape before the repair):
    the kernel-checked counterexample of C11 applies verbatim. -/
theorem not_waiting_truncates_record : ∃ s, Reach C11.badCfg s ∧ s.mainReturned = true ∧ s.handled 0 ≠ C11.badCfg.out :=
  C11.not_waiting_loses_output

/-- However the input is chunked: two chunkings of the same byte stream give the same standard
    output and the same record. -/
theorem chunking_irrelevant (b1 b2 : List Bytes) (h : b1.flatten = b2.flatten) :
    (copyLoop b1).1 = (copyLoop b2).1 ∧ (copyLoop b1).2.flatten = (copyLoop b2).2.flatten := by
  rw [(stdout_eq_input b1).1, (stdout_eq_input b1).2, (stdout_eq_input b2).1, (stdout_eq_input b2).2]
  exact ⟨h, h⟩

/-- Once the program has ended, the record and the standard output hold the same bytes. -/
theorem exit_record_eq_stdout (blocks : List Bytes) {s} (h : Reach (loggerCfg blocks) s)
    (hr : s.mainReturned = true) : (s.handled 0).flatten = (copyLoop blocks).1 := by
  rw [exit_record_complete blocks h hr, (stdout_eq_input blocks).1]

/-! Non-vacuity (tests). -/
example : copyLoop [[1, 2], [], [3]] = ([1, 2, 3], [[1, 2], [3]]) := by decide

end Ntrip.C16
