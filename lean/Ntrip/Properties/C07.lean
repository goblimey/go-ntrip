import Ntrip.Model.Analyse
import Ntrip.Model.Segment
import Ntrip.Proofs.MsmSafe
import Ntrip.Proofs.FrameSpec
import Ntrip.Properties.C05
/-!
# C07 — no input can crash or hang framing, decoding or display

Every Go operation of the framing and decoding code that can panic — slice index, slice
expression, `uint` wrap-around feeding a length — is modelled as a *checked* operation whose
failure is the distinguished outcome `Res.panic` (decoders) or is guarded by a proved range
fact (framing).  "Never panics" and "terminates" are therefore theorems, for **every** byte
string, not artefacts of totalised definitions.

Display (`String` methods: `fmt`, `hex.Dump`, float formatting) is standard-library code and
is *not* modelled; what is proved about it is that every index / pointer it dereferences
exists (`decoded_pointers_exist`), and the list of expressions in the display code that can
panic by themselves is regenerated from the source and pinned (`display_whitelist`) — the
rest is argued, and swept by correspondence (partial, see DESIGN.md §7 C07).
-/
namespace Ntrip.C07

/-- Framing terminates: every fetch that delivers a message strictly consumes input (this is
    the termination proof of the `HandleMessages` model `segment`/`segmentT`). -/
theorem stream_terminates (crc : Bytes → Nat) (s s' : In) (m : Msg) (h : fetch crc s = .msg m s') :
    s'.size < s.size := fetch_size h

/-- Framing reads are in range: `getMessageLengthAndType` indexes bits 8 … 35 only after
    checking that at least five bytes are present. -/
theorem leader_reads_in_range (bs : Bytes) (h : 5 ≤ bs.length) :
    inRange bs 8 6 = true ∧ inRange bs 14 10 = true ∧ inRange bs 24 12 = true :=
  ⟨inRange_of_le (by omega), inRange_of_le (by omega), inRange_of_le (by omega)⟩

/-- The timestamp read of `GetMessage` (30 bits at frame bit 48) is in range whenever it is
    executed: only for a CRC-valid message whose payload holds at least the 54 header bits. -/
theorem timestamp_read_in_range (crc : Bytes → Nat) (bs : Bytes) (m : Msg)
    (hm : getMessageCore crc bs = .msg m) (herr : m.err = .none) (htyp : 0 ≤ m.typ)
    (hlen : ¬ (m.raw.length - 6) * 8 < 54) : inRange bs 48 30 = true := by
  obtain ⟨_, hpre, _⟩ := getMessageCore_typed_valid crc bs m hm htyp herr
  have := hpre.length_le
  exact inRange_of_le (by omega)

/-- **No byte string makes the MSM decoders index out of range** (header, masks, satellite
    and signal arrays; the `uint` subtractions of the length guards never wrap). -/
theorem msm_no_panic (k : MsmKind) (bs : Bytes) : decodeMsm k bs ≠ .panic := (decodeMsm_safe k bs).ne_panic

/-- … nor the 1005/1006 decoders. -/
theorem base_no_panic (k : BaseKind) (bs : Bytes) : decodeBase k bs ≠ .panic := C05.base_no_panic k bs

/-- **Full decoding (`Analyse`) of any message never panics**, whatever its type and bytes:
    it yields a readable value or an error text. -/
theorem analyse_no_panic (typ : Int) (raw : Bytes) : analyse typ raw ≠ .panic := by
  suffices h : (analyse typ raw).Safe fun _ => True from h.ne_panic
  unfold analyse
  cases analyseDecoder typ with
  | msm4 => exact (decodeMsm_safe .msm4 raw).bind fun _ _ _ => trivial
  | msm7 => exact (decodeMsm_safe .msm7 raw).bind fun _ _ _ => trivial
  | t1005 => exact (C05.decodeBase_safe .t1005 raw).bind fun _ _ _ => trivial
  | t1006 => exact (C05.decodeBase_safe .t1006 raw).bind fun _ _ _ => trivial
  | text => trivial

/-- In every decoded MSM the satellite cell a signal cell points to exists (the pointer the
    MSM7 cell printer dereferences without a nil check is never nil), and so does the signal
    id it was given; there is one satellite cell per satellite of the mask. -/
theorem decoded_pointers_exist (k : MsmKind) (bs : Bytes) (m : MsmMsg) (hm : decodeMsm k bs = .ok m) :
    m.sats.length = m.hdr.sats.length ∧
    ∀ r ∈ m.sigs, ∀ cell ∈ r, cell.satIdx < m.sats.length ∧ cell.sigIdx < m.hdr.sigs.length := by
  obtain ⟨hcells, satV, colsV, n, hsats, hsigs⟩ := (decodeMsm_safe k bs).of_ok hm
  obtain ⟨hlen, hrows⟩ := cellsOfMask_shape m.hdr.cellMask m.hdr.sats.length m.hdr.sigs.length
  have hlenS : m.sats.length = m.hdr.sats.length := by rw [hsats]; simp [transpose]
  refine ⟨hlenS, fun r hr cell hc => ?_⟩
  rw [hsigs, hcells] at hr
  have := attach_indices _ _ colsV n _ _ 0 0 hrows r hr cell hc
  omega

/-- Masks announcing more cells than fit are an error, not a crash: more than 64 cell-mask
    bits is rejected before anything is read. -/
theorem too_many_cells_is_error (bs : Bytes) (h : MsmHeader) (pos : Nat)
    (hh : getMSMHeader bs = .ok (h, pos)) : h.sats.length * h.sigs.length ≤ 64 ∧ pos + 24 ≤ 8 * bs.length := by
  obtain ⟨h2, _, h4⟩ := (getMSMHeader_safe bs).of_ok hh
  exact ⟨h4, h2⟩


/-! Non-vacuity (tests): the short CRC-valid MSM frame that used to crash `GetMessage`. -/
example : (getMessage crc24q (newState 0) [0xd3, 0x00, 0x02, 0x43, 0x50, 0x06, 0xa2, 0x7e]).1 =
    .msg { typ := 1077, raw := [0xd3, 0x00, 0x02, 0x43, 0x50, 0x06, 0xa2, 0x7e], err := .tsShort } := by
  decide +kernel
example : decodeMsm .msm7 [0xd3, 0x00, 0x02, 0x43, 0x50, 0x06, 0xa2, 0x7e] = .err .headerShort := by decide +kernel

end Ntrip.C07
