import Ntrip.Proofs.SegmentRefine
import Ntrip.Proofs.Recognise
/-!
# C03 — every valid frame not preceded by a stray 0xD3 is recognised, once, in order

A stream is described by a list of segments (`Seg.frame f` with `ValidFrame crc f`,
`Seg.junk j` with `j ≠ []` and no 0xD3 byte in `j`) followed by an optional truncated frame
(`TruncTail`).  `Seg.corrupt` segments are not used here (see C12).
-/
namespace Ntrip.C03

/-- Segment lists without corrupted frames. -/
def Clean (segs : List Seg) : Prop := ∀ s ∈ segs, ∀ f, s ≠ .corrupt f

/-- The delivered messages are exactly the segments, in order: each valid frame once as a
    typed message holding its own bytes, each maximal run of other data (adjacent runs merged
    by `normalise`) and the truncated tail as non-RTCM messages. -/
theorem recognised (crc : Bytes → Nat) (segs : List Seg) (tail : Bytes)
    (hwf : ∀ s ∈ segs, s.WF crc) (_hclean : Clean segs) (htail : TruncTail crc tail) :
    segment crc (In.ofBytes (streamOf segs tail)) =
      (normalise segs).map Seg.expected ++ expectedTail tail := by
  rw [handleMessages_eq]; exact segmentS_recognises crc tail htail segs hwf

/-- `normalise` only merges: it changes neither the bytes of the stream nor well-formedness,
    and leaves no two adjacent runs of other data. -/
theorem normalise_sound (crc : Bytes → Nat) (segs : List Seg) (tail : Bytes) (hwf : ∀ s ∈ segs, s.WF crc) :
    streamOf (normalise segs) tail = streamOf segs tail ∧ (∀ s ∈ normalise segs, s.WF crc) ∧
      NoAdjacentJunk (normalise segs) :=
  ⟨normalise_stream tail segs, normalise_wf crc segs hwf, normalise_noAdjacent segs⟩

/-- What a valid frame is delivered as. -/
theorem frame_expected (f : Bytes) : (Seg.frame f).expected = { typ := typeOf f, raw := f } := rfl

/-- Frames are never merged by normalisation. -/
theorem normalise_frames : ∀ (fs : List Bytes), normalise (fs.map Seg.frame) = fs.map Seg.frame
  | _ => normalise_of_no_junk _ (List.forall_mem_map.mpr fun _ _ => rfl)

/-- A stream that consists of valid frames only, back to back (the normal case of a healthy
    caster connection), is delivered as exactly one typed message per frame, in order, each
    with exactly its own bytes, and nothing else. -/
theorem back_to_back_frames (crc : Bytes → Nat) (fs : List Bytes) (hv : ∀ f ∈ fs, ValidFrame crc f) :
    segment crc (In.ofBytes fs.flatten) = fs.map (fun f => { typ := typeOf f, raw := f }) := by
  have h := segmentS_frames crc (fs.map Seg.frame) (List.forall_mem_map.mpr hv)
    (List.forall_mem_map.mpr fun _ _ => rfl)
  rw [List.map_map, List.map_map, show Seg.bytes ∘ Seg.frame = id from rfl, List.map_id] at h
  rwa [handleMessages_eq]

/-! Non-vacuity (tests): a concrete valid frame, and the premises of `recognised` are met by a
    stream with junk, a frame, junk, a frame and a truncated tail. -/
def F1 : Bytes := [0xD3, 0x00, 0x02, 0x3E, 0xD0] ++ crcBytes (crc24q [0xD3, 0x00, 0x02, 0x3E, 0xD0])

theorem F1_valid : ValidFrame crc24q F1 :=
  ⟨by decide, by decide +kernel, by decide +kernel, by decide +kernel, by decide +kernel⟩

example : (∀ s ∈ [Seg.junk [0x24, 0x47], .frame F1, .junk [0x0d], .junk [0x0a], .frame F1], s.WF crc24q) ∧
    TruncTail crc24q (F1.take 4) := by
  refine ⟨?_, Or.inr ⟨by decide, F1, F1_valid, List.take_prefix _ _, by decide⟩⟩
  simp only [List.forall_mem_cons]
  exact ⟨⟨by decide, by decide⟩, F1_valid, ⟨by decide, by decide⟩, ⟨by decide, by decide⟩, F1_valid, nofun⟩

example : segment crc24q (In.ofBytes [F1, F1].flatten) =
    [{ typ := typeOf F1, raw := F1 }, { typ := typeOf F1, raw := F1 }] :=
  back_to_back_frames crc24q [F1, F1] (by intro f hf; simp at hf; subst hf; exact F1_valid)

end Ntrip.C03
