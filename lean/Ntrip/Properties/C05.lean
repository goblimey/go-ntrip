import Ntrip.Model.Base
import Ntrip.Proofs.FieldsRoundTrip
import Ntrip.Proofs.F64
/-!
# C05 — base-position messages 1005/1006 decode exactly (and display to 0.1 mm)

`decodeBase k frame` models `type1005.GetMessage` / `type1006.GetMessage` over the field
layout regenerated from the source.  A message is a list of field values in the standard's
order: type, station id, ITRF year, reserved(4), X (int38), reserved(2), Y (int38),
reserved(2), Z (int38) [, antenna height (uint16)].
-/
namespace Ntrip.C05

/-- The layouts of the standard (as quoted in the property): 12/12/6/4/38/2/38/2/38[/16]. -/
def std : BaseKind → List Col
  | .t1005 => [(false, 12), (false, 12), (false, 6), (false, 4), (true, 38), (false, 2), (true, 38), (false, 2), (true, 38)]
  | .t1006 => [(false, 12), (false, 12), (false, 6), (false, 4), (true, 38), (false, 2), (true, 38), (false, 2), (true, 38), (false, 16)]

theorem layout_eq (k : BaseKind) : k.layout = some (std k) := by cases k <;> decide
theorem bits_eq (k : BaseKind) : k.messageBits = (widthOf (std k) : Nat) := by cases k <;> decide
theorem width_le (k : BaseKind) : widthOf (std k) ≤ 168 := by cases k <;> decide

/-- A well-formed message: every field value fits its field, and the type field is right. -/
def WF (k : BaseKind) (vals : List Int) : Prop := FieldsWF (std k) vals ∧ vals.headD 0 = k.expectedType

/-- The frame of a message: any 3-byte leader, the packed fields (zero bits to the byte
    boundary), any trailing payload bytes, any 3 CRC bytes (the decoder checks neither). -/
def frameOf (leader : Bytes) (k : BaseKind) (vals : List Int) (trailing crc : Bytes) : Bytes :=
  leader ++ (packBits (encodeFields (std k) vals) ++ (trailing ++ crc))

theorem decodeBase_eq (k : BaseKind) (bs : Bytes) : decodeBase k bs =
    if (bs.length : Int) * 8 - 24 - 24 < (widthOf (std k) : Nat) then .err .baseOverrun
    else readFields bs (std k) 24 >>= fun vals =>
      if vals.headD 0 != k.expectedType then .err .baseWrongType else .ok vals := by
  rw [decodeBase, layout_eq, bits_eq]; rfl

theorem decodeBase_of_agrees (k : BaseKind) (vals : List Int) (bs : Bytes) (hf : FieldsWF (std k) vals)
    (hag : Agrees bs 24 (encodeFields (std k) vals))
    (hlen : 24 + (encodeFields (std k) vals).length + 24 ≤ 8 * bs.length) :
    decodeBase k bs = if vals.headD 0 != k.expectedType then .err .baseWrongType else .ok vals := by
  rw [encodeFields_length _ _ hf] at hlen
  rw [decodeBase_eq, if_neg (by omega), readFields_encode _ (std k) vals 24 hf hag]
  rfl

/-- **Round trip.** Every well-formed 1005/1006 message — any station id, ITRF year, reserved
    bits, the three coordinates over the whole signed 38-bit range (−2^37 … 2^37−1), the
    16-bit height — with any number of trailing payload bytes, decodes to exactly its fields. -/
theorem base_roundtrip (k : BaseKind) (vals : List Int) (leader trailing crc : Bytes)
    (hl : leader.length = 3) (hc : crc.length = 3) (hwf : WF k vals) :
    decodeBase k (frameOf leader k vals trailing crc) = .ok vals := by
  obtain ⟨hag, hlen⟩ := frame_carries leader hl (encodeFields (std k) vals) trailing crc hc
  rw [frameOf, decodeBase_of_agrees k vals _ hwf.1 hag hlen, hwf.2, if_neg (by simp)]

/-- A message of a different type (anything else equal) is rejected with an error. -/
theorem base_rejects_wrong_type (k : BaseKind) (vals : List Int) (leader trailing crc : Bytes)
    (hl : leader.length = 3) (hc : crc.length = 3) (hf : FieldsWF (std k) vals)
    (ht : vals.headD 0 ≠ k.expectedType) :
    decodeBase k (frameOf leader k vals trailing crc) = .err .baseWrongType := by
  obtain ⟨hag, hlen⟩ := frame_carries leader hl (encodeFields (std k) vals) trailing crc hc
  rw [frameOf, decodeBase_of_agrees k vals _ hf hag hlen, if_pos (by simpa using ht)]

/-- A frame too short for its fields is rejected with an error — whatever its content. -/
theorem base_rejects_short (k : BaseKind) (bs : Bytes)
    (h : (bs.length : Int) * 8 - 48 < (widthOf (std k) : Nat)) : decodeBase k bs = .err .baseOverrun := by
  rw [decodeBase_eq, if_pos (by omega)]

theorem decodeBase_safe (k : BaseKind) (bs : Bytes) : (decodeBase k bs).Safe fun _ => True := by
  rw [decodeBase_eq]
  refine .ite_err fun _ => ?_
  obtain ⟨vs, hvs⟩ := readFields_ok bs (std k) 24 (by cases k <;> decide) (by have := width_le k; omega)
  rw [hvs]
  exact .ite_err fun _ => trivial

/-- No byte string makes the 1005/1006 decoders index out of range. -/
theorem base_no_panic (k : BaseKind) (bs : Bytes) : decodeBase k bs ≠ .panic := (decodeBase_safe k bs).ne_panic

/-- The constant the display multiplies by: `0.0001` in the source is the rational 1/10000 (tie
    T1), and the binary64 nearest to it (ties to even) is `7378697629483821 / 2^66`, which has
    exactly 53 significant bits. -/
theorem scale_constant :
    Gen.t1005_Message_String_scaleFactor = (1 : Rat) / 10000 ∧ Gen.t1006_Message_String_scaleFactor = (1 : Rat) / 10000 ∧
    F64.rhe (2 ^ 66) 10000 = F64.c0001.m ∧ F64.bitLen F64.c0001.m.natAbs = 53 := by
  refine ⟨by decide +kernel, by decide +kernel, by decide +kernel, by decide +kernel⟩

/-- **Display to 0.1 mm.**  For every coordinate of the signed 38-bit field and every height of
    the unsigned 16-bit field, the Go expression `fmt.Sprintf("%.4f", float64(x) * 0.0001)`,
    evaluated in the exact model of binary64 arithmetic (`F64`: the product of the exactly
    converted integer and the binary64 nearest to 0.0001, rounded once to 53 bits nearest-even;
    `%.4f` = the exact value rounded to four decimals), shows exactly `x / 10^4`: the displayed
    count of 0.0001 units IS `x`.  No digit is lost to floating point. -/
theorem display_exact (x : Int) (h : -(2 ^ 37 : Int) ≤ x ∧ x < 2 ^ 37) :
    F64.fixed4 (F64.mul (F64.ofInt x) F64.c0001) = x :=
  F64.scaled_display_exact x (by omega)

theorem display_exact_height (hgt : Int) (h : 0 ≤ hgt ∧ hgt < 2 ^ 16) :
    F64.fixed4 (F64.mul (F64.ofInt hgt) F64.c0001) = hgt :=
  F64.scaled_display_exact hgt (by omega)

example : F64.render4 (F64.fixed4 (F64.mul (F64.ofInt (-137438953472)) F64.c0001)) = "-13743895.3472" := by decide +kernel
example : F64.render4 (F64.fixed4 (F64.mul (F64.ofInt (-5)) F64.c0001)) = "-0.0005" := by decide +kernel

/-! Non-vacuity (tests): a concrete 1005 message with extreme coordinates. -/
def sample : List Int := [1005, 2, 3, 0, -137438953472, 1, 137438953471, 2, -1]

example : WF .t1005 sample := by
  refine ⟨?_, by decide⟩
  simp [sample, std, FieldsWF, InRange]

example : decodeBase .t1005 (frameOf [0xD3, 0, 19] .t1005 sample [0xAB] [1, 2, 3]) = .ok sample := by
  decide +kernel

end Ntrip.C05
