import Ntrip.Proofs.SegmentRefine
import Ntrip.Proofs.SegmentSpec
/-!
# C02 — stream segmentation is lossless

`segment crc (In.ofBytes bs)` models `HandleMessages` reading `bs` from a byte channel
(with push-back) that is then closed.  It is a total function: its recursion measure (bytes
still to be delivered, push-back included) strictly decreases on every fetch (`fetch_size`,
needed to *define* `segment`), so the handler terminates on every finite input, and the
model has no panic outcome in the framing code (every index is guarded — see C07 for the
decoders).  The schedule-independent parts (any channel capacities and timings, output
closed exactly once) are `Ntrip.C09`/`Pipeline` theorems instantiated with this function.
-/
namespace Ntrip.C02

/-- The raw bytes of the delivered messages, concatenated in delivery order, are the input. -/
theorem segment_lossless (crc : Bytes → Nat) (bs : Bytes) :
    ((segment crc (In.ofBytes bs)).map (·.raw)).flatten = bs := by
  rw [handleMessages_eq]; exact segmentS_lossless crc bs

/-- No delivered message is empty. -/
theorem segment_nonempty (crc : Bytes → Nat) (bs : Bytes) (m : Msg)
    (hm : m ∈ segment crc (In.ofBytes bs)) : m.raw ≠ [] := by
  rw [handleMessages_eq] at hm; exact segmentS_raw_ne_nil crc bs m hm

/-- Losslessness from any state of the push-back channel that the handler can be in
    (at most one byte pushed back): nothing is lost or duplicated across fetches. -/
theorem segment_lossless_state (crc : Bytes → Nat) (s : In) (hpb : s.pb.length ≤ 1) :
    ((segment crc s).map (·.raw)).flatten = s.stream := by
  rw [segment_eq_segmentS crc s hpb]; exact segmentS_lossless crc _

/-- Every fetch that delivers a message strictly consumes input: the loop terminates. -/
theorem fetch_progress (crc : Bytes → Nat) (s s' : In) (m : Msg) (h : fetch crc s = .msg m s') :
    s'.size < s.size := fetch_size h

/-- The push-back buffer never holds more than one byte (so its FIFO order is immaterial). -/
theorem pushback_small (s : In) (hpb : s.pb.length ≤ 1) : (fetchC s).pbOk := (fetchC_refines s hpb).2

/-- An empty stream delivers nothing; the handler just closes its output. -/
theorem segment_empty (crc : Bytes → Nat) : segment crc (In.ofBytes []) = [] := by
  rw [handleMessages_eq, segmentS_nil]

theorem flatten_length_ge {α : Type} : ∀ (ls : List (List α)), (∀ l ∈ ls, l ≠ []) → ls.length ≤ ls.flatten.length
  | [], _ => Nat.le_refl 0
  | l :: ls, h => by
    have := flatten_length_ge ls fun x hx => h x (List.mem_cons_of_mem _ hx)
    have := List.length_pos_iff.mpr (h l List.mem_cons_self)
    simp only [List.flatten_cons, List.length_append, List.length_cons]; omega

/-- The handler delivers at most as many messages as it read bytes (none is empty). -/
theorem message_count_le_bytes (crc : Bytes → Nat) (bs : Bytes) :
    (segment crc (In.ofBytes bs)).length ≤ bs.length := by
  have h := flatten_length_ge _ (List.forall_mem_map.mpr (segment_nonempty crc bs))
  rwa [segment_lossless, List.length_map] at h

/-- Every delivered message's raw bytes sit in the input at the offset given by what was delivered before it. -/
theorem message_at_offset (crc : Bytes → Nat) (bs : Bytes) (pre post : List Msg) (m : Msg)
    (h : segment crc (In.ofBytes bs) = pre ++ m :: post) :
    bs = (pre.map (·.raw)).flatten ++ m.raw ++ (post.map (·.raw)).flatten := by
  simpa [h] using (segment_lossless crc bs).symm

/-! Non-vacuity (tests). -/
example : scan [0xD3] = .junk [0xD3] [] := by decide
example : scan [0xD3, 0x00, 0x04, 0x4c] = .junk [0xD3, 0x00, 0x04, 0x4c] [] := by decide
example : scan [0x24, 0x47, 0xD3, 0x00] = .junk [0x24, 0x47] [0xD3, 0x00] := by decide

end Ntrip.C02
