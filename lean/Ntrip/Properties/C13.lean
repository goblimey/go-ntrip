import Ntrip.Proofs.Reader
import Ntrip.Properties.C02
/-!
# C13 — transient end-of-file or read timeouts on the input lose and duplicate nothing

`runReader cfg script st` models the read loop of `file_handler.Handler.Handle` over a script
of read results (`byte b`, `eof`, `timeout`, `other`) with tolerance `cfg.tau`
(`TimeoutOnEOF`), wait `cfg.omega` (`WaitTimeOnEOF`) and a clock oracle (the values the
successive `time.Now()` calls return — the theorems hold for **every** such list).
What the loop forwards goes, byte by byte and in order, into the byte channel that
`HandleMessages` reads and that `Handle` closes on return (`defer close`); the delivered
messages are therefore `segment crc (In.ofBytes forwarded)`.
-/
namespace Ntrip.C13

/-- Every byte supplied before the stop point is forwarded exactly once and in order, and
    nothing else — for every script (any placement of single, double, … EOF/timeout results,
    between and inside frames), every tolerance setting and every clock. -/
theorem forwarded_exact (cfg : RCfg) (script : List ReadRes) (clock : List Nat) :
    let r := runReader cfg script { clock := clock }
    r.1.forwarded = bytesOf (script.take r.1.consumed) ∧ r.1.consumed ≤ script.length := by
  have := Ntrip.forwarded_exact cfg script { clock := clock }
  simp only [Nat.sub_zero, List.nil_append, Nat.zero_add] at this
  exact ⟨this.2.2, this.2.1⟩

/-- Interruptions that resume (no two failures in a row, no other error) with a non-zero
    tolerance never stop the handler: the delivered bytes are those of the uninterrupted
    stream, even when an interruption falls inside a frame. -/
theorem transient_failures_invisible (cfg : RCfg) (hτ : cfg.tau ≠ 0) (script : List ReadRes) (clock : List Nat)
    (hiso : Isolated script) :
    (runReader cfg script { clock := clock }).2 = .scriptEnd ∧
    (runReader cfg script { clock := clock }).1.forwarded = bytesOf script := by
  have hend := isolated_never_stops cfg hτ script { clock := clock } hiso nofun
  obtain ⟨k, -, -, hf, hk⟩ := runReader_spec cfg script { clock := clock }
  rw [hk hend, List.take_length] at hf
  exact ⟨hend, hf⟩

/-- Hence the delivered messages equal those of the uninterrupted stream. -/
theorem delivered_equal_uninterrupted (crc : Bytes → Nat) (cfg : RCfg) (hτ : cfg.tau ≠ 0)
    (script : List ReadRes) (clock : List Nat) (hiso : Isolated script) :
    segment crc (In.ofBytes (runReader cfg script { clock := clock }).1.forwarded) =
      segment crc (In.ofBytes (bytesOf script)) := by
  rw [(transient_failures_invisible cfg hτ script clock hiso).2]

/-- A zero tolerance stops at the first EOF/timeout; any other read error stops whatever the
    tolerance; everything received so far has been forwarded (and is delivered — C02 — with
    the partial frame as a non-RTCM message, the channel being closed on return). -/
theorem stops_when_it_must (cfg : RCfg) (pre : List UInt8) (f : ReadRes) (post : List ReadRes) (clock : List Nat)
    (hf : f = .other ∨ (cfg.tau = 0 ∧ f.isSoftFailure = true)) :
    (runReader cfg (pre.map ReadRes.byte ++ f :: post) { clock := clock }).1.forwarded = pre ∧
    (runReader cfg (pre.map ReadRes.byte ++ f :: post) { clock := clock }).2 ≠ .scriptEnd :=
  have := stops_at_first_failure cfg pre f post { clock := clock } hf
  ⟨this.1, this.2.2⟩

/-- The data received so far is still delivered completely (losslessly) after a stop. -/
theorem stopped_data_delivered (crc : Bytes → Nat) (cfg : RCfg) (script : List ReadRes) (clock : List Nat) :
    ((segment crc (In.ofBytes (runReader cfg script { clock := clock }).1.forwarded)).map (·.raw)).flatten =
      bytesOf (script.take (runReader cfg script { clock := clock }).1.consumed) := by
  rw [C02.segment_lossless, (forwarded_exact cfg script clock).1]

/-- A failure run persisting beyond the tolerance stops the handler: two consecutive
    EOF/timeout results with the clock more than `tau` apart. -/
theorem persistent_failure_stops (cfg : RCfg) (hτ : cfg.tau ≠ 0) (t0 t1 : Nat) (clock : List Nat)
    (hlate : t1 - t0 > cfg.tau) (post : List ReadRes) :
    (runReader cfg (.eof :: .eof :: post) { clock := t0 :: t1 :: clock }).2 = .toleranceExpired := by
  simp [runReader, stepReader, hτ, hlate]

/-- Whatever the failures, timings and tolerance: what the reader forwards is always a prefix of
    the bytes the source supplied - nothing is ever duplicated, reordered or invented. -/
theorem forwarded_is_prefix (cfg : RCfg) (script : List ReadRes) (clock : List Nat) :
    (runReader cfg script { clock := clock }).1.forwarded <+: bytesOf script := by
  rw [(forwarded_exact cfg script clock).1]
  exact ⟨bytesOf (script.drop _), by rw [← bytesOf_append, List.take_append_drop]⟩

/-- … and so are the bytes of the messages delivered from it. -/
theorem delivered_is_prefix (crc : Bytes → Nat) (cfg : RCfg) (script : List ReadRes) (clock : List Nat) :
    ((segment crc (In.ofBytes (runReader cfg script { clock := clock }).1.forwarded)).map (·.raw)).flatten
      <+: bytesOf script := by
  rw [C02.segment_lossless]; exact forwarded_is_prefix cfg script clock

/-! Non-vacuity (tests): EOF inside a frame, tolerated. -/
example : Isolated [.byte 0xD3, .eof, .byte 0x00, .timeout, .byte 0x01] := by simp [Isolated, ReadRes.isSoftFailure, ReadRes.isByte]
example : (runReader ⟨50, 1⟩ [.byte 0xD3, .eof, .byte 0x00, .timeout, .byte 0x01] { clock := [10, 20] }).1.forwarded
    = [0xD3, 0x00, 0x01] := by decide

end Ntrip.C13
