import Ntrip.Proofs.TimeHist
/-!
# C06 — MSM timestamps are converted to the true UTC time across week rollovers

`newState T` models `handler.New(T, …)`, `msmTime st typ ts` the stateful conversion that
`GetMessage` performs for an MSM frame of type `typ` with timestamp field `ts`
(`getTimeFromTimeStamp` + the state updates of `getUTCFrom…Time`), `startOfWeek` the value
shown in the `StartOfWeek` line.  A history is a list of events `Ev.obs c hi u` (an MSM4
(`hi = false`) or MSM7 message of constellation `c` observed at the true instant `u`, whose
timestamp field is therefore `trueTs c u`) and `Ev.bad c hi ts` (an illegal timestamp).
-/
namespace Ntrip.C06

/-- The precondition of C06 in the property's own words: per constellation the observation
    times never decrease, the first is not earlier than `T` and lies in the same constellation
    week as `T`, consecutive ones are less than six days apart. -/
def PreC06 (T : Int) : Last → List Ev → Prop
  | _, [] => True
  | L, .obs c _ u :: rest =>
    (match L.get c with
     | none => T ≤ u ∧ trueWeekStart c u = trueWeekStart c T
     | some p => p ≤ u ∧ u - p < 6 * 86400000) ∧ PreC06 T (L.set c u) rest
  | L, .bad c _ ts :: rest => ¬ legalTs c ts ∧ PreC06 T L rest

theorem pre_of_preC06 (T : Int) : ∀ (evs : List Ev) (L : Last), PreC06 T L evs → Pre T L evs
  | [], _, _ => trivial
  | .obs c hi u :: rest, L, ⟨h1, h2⟩ => by
    refine ⟨?_, pre_of_preC06 T rest _ h2⟩
    unfold Admissible
    cases hl : L.get c with
    | none => rw [hl] at h1; exact h1.2
    | some p => rw [hl] at h1; exact ⟨h1.1, by omega⟩
  | .bad c hi ts :: rest, L, h => ⟨h.1, pre_of_preC06 T rest _ h.2⟩

/-- **C06.** For every start time `T` and every history satisfying the precondition — any
    interleaving of the four constellations and of MSM4/MSM7, any number of week rollovers,
    illegal timestamps inserted anywhere — the handler created by `New(T)` reports, message by
    message, exactly the true UTC time and the true start of the constellation week; an
    illegal timestamp is reported as an error and leaves the state untouched. -/
theorem times_true (T : Int) (evs : List Ev) (h : PreC06 T {} evs) :
    runTimes (newState T) evs = expectedTimes T {} evs :=
  times_correct T evs {} (newState T) (inv_new T) (pre_of_preC06 T evs {} h)

/-- An illegal timestamp (7 days of ms or more; GLONASS day 7 or 24 h of ms or more) yields an
    error instead of a time and does not disturb the handler's state — in any reachable state. -/
theorem illegal_is_error_and_inert {T : Int} {L : Last} {st : TState} (hinv : Inv T L st)
    (c : Constellation) (hi : Bool) (ts : Nat) (hbad : ¬ legalTs c ts) :
    msmTime st (typOf c hi) ts = (.rangeErr, st) :=
  msmTime_illegal st hi hbad  -- holds in every state, reachable or not: `hinv` is not needed

/-- What "the true start of week" is: GPS/Galileo weeks start 18 s and BeiDou weeks 4 s before
    Sunday 00:00 UTC, GLONASS weeks at Saturday 21:00 UTC (Sunday 00:00 Moscow time). -/
theorem weekStart_is_epoch (c : Constellation) (u : Int) :
    ∃ k : Int, trueWeekStart c u = weekBase c + k * 604800000 ∧
      trueWeekStart c u ≤ u ∧ u < trueWeekStart c u + 604800000 := by
  have := weekPos_lt c u
  refine ⟨(u - weekBase c) / 604800000, ?_, weekStart_le c u, by rw [trueWeekStart]; omega⟩
  rw [trueWeekStart, weekPos]
  omega

/-- `GetMessage` feeds exactly the frame's 30-bit timestamp field (bit 48 of the frame) to
    that conversion, for every CRC-valid MSM frame long enough to contain it. -/
theorem getMessage_uses_timestamp (st : TState) (bs : Bytes) (m : Msg)
    (h1 : m.err = .none) (h2 : isMSM m.typ = true) (h3 : ¬ (m.raw.length - 6) * 8 < 54) :
    (addTime st bs m).2 = (msmTime st m.typ (getBitsU bs 48 30)).2 ∧
    (addTime st bs m).1.ts = getBitsU bs 48 30 ∧
    (addTime st bs m).1.sentAt =
      (match (msmTime st m.typ (getBitsU bs 48 30)).1 with | .ok t => some t | _ => none) ∧
    (addTime st bs m).1.sow = startOfWeek (msmTime st m.typ (getBitsU bs 48 30)).2 m.typ := by
  unfold addTime
  simp only [h1, h2, beq_self_eq_true, Bool.and_self, if_true, h3, if_false]
  cases (msmTime st m.typ (getBitsU bs 48 30)).1 <;> simp [MsgT.ofMsg]

/-! ### Non-vacuity (tests): a concrete history with a GPS week rollover and an illegal stamp -/

/-- Start Sat 2023-05-13 12:00:00 UTC; GPS at 13:00 and (after the rollover at 23:59:42) on
    Sunday 01:00; GLONASS at Sat 20:59 and Sat 21:01 UTC (its rollover); a BeiDou stamp of 7 d. -/
def sample : List Ev :=
  [.obs .gps true 1683982800000, .obs .glonass false 1684011540000, .bad .beidou true 604800000,
   .obs .glonass false 1684011660000, .obs .gps false 1684026000000]

example : PreC06 1683979200000 {} sample := by
  simp only [sample, PreC06, Last.get, Last.set, trueWeekStart, weekPos, weekBase, legalTs]
  decide

example : runTimes (newState 1683979200000) sample =
    [(.ok 1683982800000, some 1683417582000), (.ok 1684011540000, some 1683406800000),
     (.rangeErr, some 1683417596000), (.ok 1684011660000, some 1684011600000),
     (.ok 1684026000000, some 1684022382000)] := by decide +kernel

end Ntrip.C06
