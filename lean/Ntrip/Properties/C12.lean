import Ntrip.Proofs.SegmentRefine
import Ntrip.Proofs.Recognise
import Ntrip.Model.SegmentT
import Ntrip.Properties.C03
/-!
# C12 — a frame corrupted in payload or CRC is discarded alone; its neighbours survive

`Seg.corrupt f'` stands for a frame some of whose payload/CRC bits were altered: it keeps the
3-byte leader and the length of a valid frame, and its CRC no longer matches (`Corrupted`).
-/
namespace Ntrip.C12

/-- Every segment, corrupted frames included, is delivered as itself: the corrupted frame as a
    single non-RTCM message holding exactly its bytes (it is *not* merged with neighbouring
    other data — the code returns it from a separate fetch), every other segment exactly as
    in C03.  Any number of corrupted frames, anywhere. -/
theorem corrupt_isolated (crc : Bytes → Nat) (segs : List Seg) (tail : Bytes)
    (hwf : ∀ s ∈ segs, s.WF crc) (htail : TruncTail crc tail) :
    segment crc (In.ofBytes (streamOf segs tail)) =
      (normalise segs).map Seg.expected ++ expectedTail tail := by
  rw [handleMessages_eq]; exact segmentS_recognises crc tail htail segs hwf

/-- The one-victim form of the statement: replacing the valid frame `f` by a corrupted `f'`
    changes the delivered sequence in exactly that position. -/
theorem one_victim (crc : Bytes → Nat) (pre post : List Seg) (f f' : Bytes) (tail : Bytes)
    (hpre : ∀ s ∈ pre, s.WF crc) (hpost : ∀ s ∈ post, s.WF crc)
    (hf : ValidFrame crc f) (hf' : Corrupted crc f') (htail : TruncTail crc tail)
    (hn1 : NoAdjacentJunk (pre ++ [.frame f] ++ post)) (hn2 : NoAdjacentJunk (pre ++ [.corrupt f'] ++ post)) :
    segment crc (In.ofBytes (streamOf (pre ++ [.frame f] ++ post) tail)) =
      pre.map Seg.expected ++ [{ typ := typeOf f, raw := f }] ++ post.map Seg.expected ++ expectedTail tail
    ∧
    segment crc (In.ofBytes (streamOf (pre ++ [.corrupt f'] ++ post) tail)) =
      pre.map Seg.expected ++ [{ typ := -1, raw := f', err := .crc }] ++ post.map Seg.expected ++ expectedTail tail := by
  have key (s : Seg) (hs : s.WF crc) (hn : NoAdjacentJunk (pre ++ [s] ++ post)) :
      segment crc (In.ofBytes (streamOf (pre ++ [s] ++ post) tail)) =
        pre.map Seg.expected ++ [s.expected] ++ post.map Seg.expected ++ expectedTail tail := by
    have hwf : ∀ x ∈ pre ++ [s] ++ post, x.WF crc :=
      List.forall_mem_append.mpr ⟨List.forall_mem_append.mpr ⟨hpre, List.forall_mem_singleton.mpr hs⟩, hpost⟩
    rw [handleMessages_eq, segmentS_recognises_merged crc tail htail _ hwf hn, List.map_append, List.map_append]
    rfl
  exact ⟨key (.frame f) hf hn1, key (.corrupt f') hf' hn2⟩

/-- **The neighbours' time lines survive too.**  In the model with the handler's time state
    threaded through (`segmentT`: what the consumer sees, `SentAt` and `StartOfWeek` included), a
    corrupted frame is delivered without time lines and leaves the time state exactly as it
    found it - for every state and every altered content, an MSM-typed victim with a plausible
    timestamp included.  Everything the following frames are told about time is therefore what
    they would have been told had the victim not been there. -/
theorem corrupted_frame_keeps_time_state (crc : Bytes → Nat) (st : TState) (f' : Bytes)
    (hc : Corrupted crc f') :
    msgTOfFrame crc st f' = (MsgT.ofMsg { typ := -1, raw := f', err := .crc }, st) := by
  rw [msgTOfFrame, getMessage, getMessageCore_framed crc hc.framed.1, hc.framed.2]
  simp [addTime]

/-- What a corrupted frame is delivered as. -/
theorem corrupt_expected (f : Bytes) : (Seg.corrupt f).expected = { typ := -1, raw := f, err := .crc } := rfl

/-- Segments without other data between them are left as they are by normalisation. -/
theorem normalise_no_junk : ∀ (l : List Seg), (∀ s ∈ l, s.isJunk = false) → normalise l = l
  | l, h => normalise_of_no_junk l h

/-- One corrupted frame among back-to-back valid frames: every other frame is still delivered,
    typed and with its own bytes, and the corrupted one alone is reported with a CRC error. -/
theorem corrupt_among_frames (crc : Bytes → Nat) (fs1 fs2 : List Bytes) (f' : Bytes)
    (h1 : ∀ f ∈ fs1, ValidFrame crc f) (h2 : ∀ f ∈ fs2, ValidFrame crc f) (hc : Corrupted crc f') :
    segment crc (In.ofBytes (fs1.flatten ++ f' ++ fs2.flatten)) =
      fs1.map (fun f => { typ := typeOf f, raw := f }) ++ [{ typ := -1, raw := f', err := .crc }] ++
      fs2.map (fun f => { typ := typeOf f, raw := f }) := by
  have h := segmentS_frames crc (fs1.map Seg.frame ++ [Seg.corrupt f'] ++ fs2.map Seg.frame)
    (by simp only [List.forall_mem_append, List.forall_mem_map, List.forall_mem_singleton]; exact ⟨⟨h1, hc⟩, h2⟩)
    (by simp only [List.forall_mem_append, List.forall_mem_map, List.forall_mem_singleton]
        exact ⟨⟨fun _ _ => rfl, rfl⟩, fun _ _ => rfl⟩)
  simp only [List.map_append, List.map_map, List.map_cons, List.map_nil, show Seg.bytes ∘ Seg.frame = id from rfl,
    List.map_id, List.flatten_append, List.flatten_cons, List.flatten_nil, List.append_nil] at h
  rwa [handleMessages_eq]

/-! Non-vacuity (tests): a concrete corrupted frame (payload byte altered to 0xD3). -/
def F1 : Bytes := [0xD3, 0x00, 0x02, 0x3E, 0xD0] ++ crcBytes (crc24q [0xD3, 0x00, 0x02, 0x3E, 0xD0])
def F1bad : Bytes := [0xD3, 0x00, 0x02, 0x3E, 0xD3] ++ crcBytes (crc24q [0xD3, 0x00, 0x02, 0x3E, 0xD0])

theorem F1bad_corrupted : Corrupted crc24q F1bad :=
  ⟨⟨F1, C03.F1_valid, by decide, by decide⟩, by decide +kernel⟩

example : Corrupted crc24q F1bad := F1bad_corrupted

example : (msgTOfFrame crc24q (newState 1683979200000) F1bad).2 = newState 1683979200000 :=
  congrArg Prod.snd (corrupted_frame_keeps_time_state crc24q _ F1bad F1bad_corrupted)

end Ntrip.C12
