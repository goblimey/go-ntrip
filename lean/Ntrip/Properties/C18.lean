import Ntrip.Proofs.QueueConc
import Ntrip.Proofs.Queue
/-!
# C18 — the recent-message queue always holds the last N messages in arrival order

`CQ` (Model/Queue.lean) models `circularQueue.CircularQueue`: the map `Items` as its
key-ordered association list, `Add` with its eviction loop, `GetMessages`.

Concurrency (second half of the file): `Add` runs entirely under the write lock and `GetMessages`
under the read lock of one `sync.RWMutex` (tie `tie_locking`), and no other function touches the
state.  That every returned snapshot is then a snapshot of the sequential queue in lock order is
proved on the transition system of `Model/QueueConc.lean`.  The semantics of `sync.RWMutex`
(mutual exclusion of writers with everybody) is trusted, and the real-time/linearizability clause
is additionally checked on concurrent histories of the real queue (partial: runtime scheduling and
data races cannot be exhibited by the model).
-/
namespace Ntrip.C18

/-- For every capacity `N ≥ 1` and every sequence of additions, a snapshot returns exactly
    the most recent `min N (number added)` messages, in the order they were added … -/
theorem snapshot_is_last_N {α : Type} (N : Nat) (hN : 1 ≤ N) (ms : List α) :
    ((CQ.new (N : Int)).adds ms).get = ms.drop (ms.length - N) :=
  (queue_spec N hN ms).1

/-- … and the queue never holds more than `N`. -/
theorem never_more_than_N {α : Type} (N : Nat) (hN : 1 ≤ N) (ms : List α) :
    ((CQ.new (N : Int) : CQ α).adds ms).items.length ≤ N := by
  rw [(queue_spec N hN ms).2]; exact Nat.min_le_left ..

theorem snapshot_length {α : Type} (N : Nat) (hN : 1 ≤ N) (ms : List α) :
    ((CQ.new (N : Int)).adds ms).get.length = min N ms.length := by
  rw [CQ.get, List.length_map]; exact (queue_spec N hN ms).2

/-- Snapshots interleaved with additions: after any prefix of the additions the snapshot is
    the last `N` of that prefix (so a history of atomic adds and snapshots in lock order sees
    contiguous runs of the addition order). -/
theorem snapshot_after_prefix {α : Type} (N : Nat) (hN : 1 ≤ N) (before after : List α) :
    ((CQ.new (N : Int)).adds before).get = before.drop (before.length - N) ∧
    (((CQ.new (N : Int)).adds before).adds after).get = (before ++ after).drop ((before ++ after).length - N) := by
  rw [← CQ.adds_append]
  exact ⟨snapshot_is_last_N N hN _, snapshot_is_last_N N hN _⟩

/-- A snapshot is a contiguous run of the addition order that ends at the newest message. -/
theorem snapshot_is_suffix {α : Type} (N : Nat) (hN : 1 ≤ N) (ms : List α) :
    ((CQ.new (N : Int)).adds ms).get <:+ ms := by
  rw [snapshot_is_last_N N hN ms]; exact List.drop_suffix _ _

/-- The message added last is always in the snapshot, in last place (eviction never removes it). -/
theorem newest_always_present {α : Type} (N : Nat) (hN : 1 ≤ N) (ms : List α) (m : α) :
    ((CQ.new (N : Int)).adds (ms ++ [m])).get.getLast? = some m := by
  -- the last `Add` appends `m` after its eviction loop; this holds for every capacity, `hN` is not needed
  rw [CQ.adds_append]
  show (((CQ.new (N : Int)).adds ms).add m).get.getLast? = some m
  rw [CQ.add_eq, CQ.get, List.map_append]
  exact List.getLast?_concat ..

/-- Two snapshots in lock order are consistent with each other: the later one is a suffix of the
    earlier one followed by what was added in between (nothing reappears, nothing is reordered). -/
theorem later_snapshot_extends_earlier {α : Type} (N : Nat) (hN : 1 ≤ N) (before after : List α) :
    ((CQ.new (N : Int)).adds (before ++ after)).get <:+ ((CQ.new (N : Int)).adds before).get ++ after := by
  rw [snapshot_is_last_N N hN, snapshot_is_last_N N hN, ← drop_window]
  exact List.drop_suffix _ _

/-! ## Concurrent use

`Ntrip.QC` (`Model/QueueConc.lean`) is a transition system of any number of goroutines calling
`Add` and `GetMessages`, each broken into its micro-steps on the shared map (`Add`: the test,
the snapshot of the keys, one `delete` per loop iteration, the map assignment, the increment;
`GetMessages`: the snapshot of the keys, one lookup per iteration), interleaved arbitrarily under
the discipline of the `RWMutex`.  `order` is the list of additions in the order in which they
obtained the lock; a returned snapshot is recorded with the number of additions that had obtained
the lock before the reader did.  A goroutine obtains the lock between its invocation and its
return, so lock order respects real-time order. -/

/-- **Linearizability in lock order**: in every reachable state, for every interleaving of the
    micro-steps of any number of adders and readers, every snapshot that has been returned is
    exactly the last `min(N, n)` of the first `n` additions in lock order, where `n` additions had
    obtained the lock before the reader — never a partial state, never out of order. -/
theorem concurrent_snapshots_linearizable {α : Type} (N : Nat) (hN : 1 ≤ N) {s : QC.S α}
    (h : QC.Reach true (N : Int) s) :
    ∀ p ∈ s.rets, p.1 ≤ s.order.length ∧
      p.2 = (s.order.take p.1).drop ((s.order.take p.1).length - N) := by
  intro p hp
  obtain ⟨h1, h2⟩ := (QC.reach_inv h).rets p hp
  exact ⟨h1, by rw [h2]; exact (queue_spec N hN _).1⟩

/-- While nobody is inside `Add`, the shared map is exactly the sequential queue after the
    additions in lock order (so it holds at most `N` messages: `never_more_than_N`); while one
    goroutine is inside `Add`, no other goroutine is inside `Add` or `GetMessages`. -/
theorem concurrent_state {α : Type} (N : Nat) {s : QC.S α} (h : QC.Reach true (N : Int) s) :
    ((∀ t, (s.th t).inW = false) → s.q = (CQ.new (N : Int)).adds s.order) ∧
    (∀ t u, t ≠ u → (s.th t).inW = true → (s.th u).inW = false ∧ (s.th u).inR = false) :=
  ⟨(QC.reach_inv h).absIdle, (QC.reach_inv h).excl⟩

/-- The lock is necessary: the same code with the lock calls removed has an execution (kernel-
    checked) in which a reader that started after two additions had begun returns the EMPTY
    snapshot from a queue of capacity 1 — it looked between the `delete` and the assignment. -/
theorem without_lock_partial_state_is_seen :
    ∃ s : QC.S Nat, QC.Reach false 1 s ∧ (2, []) ∈ s.rets ∧ s.order = [7, 8] := by
  have r0 : QC.Reach false 1 (QC.init Nat 1) := .init
  have r1 := QC.Reach.step r0 (QC.Step.invAdd _ 0 7 rfl)
  have r2 := QC.Reach.step r1 (QC.Step.lockW _ 0 7 rfl (by intro h; cases h))
  have r3 := QC.Reach.step r2 (QC.Step.microW _ 0 rfl (by intro h; cases h))   -- the test: 0 < 1, no eviction
  have r4 := QC.Reach.step r3 (QC.Step.microW _ 0 rfl (by intro h; cases h))   -- Items[0] = 7
  have r5 := QC.Reach.step r4 (QC.Step.microW _ 0 rfl (by intro h; cases h))   -- NextIndex++
  have r6 := QC.Reach.step r5 (QC.Step.unlockW _ 0 rfl)
  have r7 := QC.Reach.step r6 (QC.Step.invAdd _ 0 8 rfl)
  have r8 := QC.Reach.step r7 (QC.Step.lockW _ 0 8 rfl (by intro h; cases h))
  have r9 := QC.Reach.step r8 (QC.Step.microW _ 0 rfl (by intro h; cases h))   -- the test: 1 ≥ 1, keys [0]
  have r10 := QC.Reach.step r9 (QC.Step.microW _ 0 rfl (by intro h; cases h))  -- delete(Items, 0): the map is empty
  have r11 := QC.Reach.step r10 (QC.Step.invGet _ 1 rfl)
  have r12 := QC.Reach.step r11 (QC.Step.lockR _ 1 rfl (by intro h; cases h))
  have r13 := QC.Reach.step r12 (QC.Step.microR _ 1 rfl (by intro n acc h; cases h))  -- the keys: none
  have r14 := QC.Reach.step r13 (QC.Step.unlockR _ 1 2 [] rfl)
  have r15 := QC.Reach.step r14 (QC.Step.retGet _ 1 2 [] rfl)
  exact ⟨_, r15, by simp, rfl⟩

/-- Non-vacuity: with the lock, a reachable state with a returned snapshot. -/
example : ∃ s : QC.S Nat, QC.Reach true 1 s ∧ s.rets = [(1, [7])] := by
  have r0 : QC.Reach true 1 (QC.init Nat 1) := .init
  have r1 := QC.Reach.step r0 (QC.Step.invAdd _ 0 7 rfl)
  have r2 := QC.Reach.step r1 (QC.Step.lockW _ 0 7 rfl (by intro _ u; by_cases h : u = 0 <;> simp [QC.upd, QC.init, QC.T.inW, QC.T.inR, h]))
  have r3 := QC.Reach.step r2 (QC.Step.microW _ 0 rfl (by intro h; cases h))
  have r4 := QC.Reach.step r3 (QC.Step.microW _ 0 rfl (by intro h; cases h))
  have r5 := QC.Reach.step r4 (QC.Step.microW _ 0 rfl (by intro h; cases h))
  have r6 := QC.Reach.step r5 (QC.Step.unlockW _ 0 rfl)
  have r7 := QC.Reach.step r6 (QC.Step.invGet _ 1 rfl)
  have r8 := QC.Reach.step r7 (QC.Step.lockR _ 1 rfl (by intro _ u; by_cases h : u = 0 <;> by_cases h1 : u = 1 <;> simp [QC.upd, QC.init, QC.T.inW, h, h1]))
  have r9 := QC.Reach.step r8 (QC.Step.microR _ 1 rfl (by intro n acc h; cases h))
  have r10 := QC.Reach.step r9 (QC.Step.microR _ 1 rfl (by intro n acc h; cases h))
  have r11 := QC.Reach.step r10 (QC.Step.unlockR _ 1 1 [7] rfl)
  have r12 := QC.Reach.step r11 (QC.Step.retGet _ 1 1 [7] rfl)
  exact ⟨_, r12, rfl⟩

/-! Non-vacuity (tests). -/
example : ((CQ.new 3).adds [1, 2, 3, 4, 5]).get = [3, 4, 5] := by decide
example : ((CQ.new 1).adds [7, 8]).get = [8] ∧ ((CQ.new 8).adds [7, 8]).get = [7, 8] := by decide

end Ntrip.C18
