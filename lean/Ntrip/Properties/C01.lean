import Ntrip.Proofs.SegmentRefine
import Ntrip.Proofs.SegmentSpec
/-!
# C01 — only complete CRC-valid frames are ever presented as typed RTCM messages

`segment crc (In.ofBytes bs)` is the model of `HandleMessages` on the byte stream `bs`
(byte channel with push-back, closed after `bs`); `getMessageCore crc bs` the model of
`GetMessage(bs)` up to the point where type and raw bytes are fixed.  Both theorems hold for
an arbitrary checksum function `crc`, in particular for CRC-24Q.
-/
namespace Ntrip.C01

/-- Stream clause: every message delivered with a non-negative type carries exactly one valid
    frame, reports that frame's type, and carries no error. -/
theorem stream_typed_valid (crc : Bytes → Nat) (bs : Bytes) (m : Msg)
    (hm : m ∈ segment crc (In.ofBytes bs)) (htyp : 0 ≤ m.typ) :
    ValidFrame crc m.raw ∧ m.typ = typeOf m.raw ∧ m.err = .none := by
  rw [handleMessages_eq] at hm
  exact segmentS_typed_valid crc bs m hm htyp

/-- Single-frame clause (reading of DESIGN.md §9.1): a typed message without an error is only
    returned for bytes that begin with exactly one valid frame; the message holds exactly that
    frame (a prefix of the input) and reports its type. -/
theorem getMessage_typed_valid (crc : Bytes → Nat) (bs : Bytes) (m : Msg)
    (h : getMessageCore crc bs = .msg m) (htyp : 0 ≤ m.typ) (herr : m.err = .none) :
    ValidFrame crc m.raw ∧ m.raw <+: bs ∧ m.typ = typeOf m.raw :=
  getMessageCore_typed_valid crc bs m h htyp herr

/-- The only typed message that does carry an error at this stage is the zero-length one
    (allowed by the statement: it is returned *with* an error). -/
theorem getMessage_typed_error (crc : Bytes → Nat) (bs : Bytes) (m : Msg)
    (h : getMessageCore crc bs = .msg m) (htyp : 0 ≤ m.typ) (herr : m.err ≠ .none) :
    m.err = .zeroLength ∧ m.raw = bs := by
  rcases getMessageCore_typed crc bs m h htyp with hz | ⟨he, _⟩
  · exact hz
  · exact absurd he herr

/-- Size of a frame: 3 leader bytes, 1…1023 payload bytes, 3 CRC bytes. -/
theorem validFrame_size_bounds (crc : Bytes → Nat) (f : Bytes) (h : ValidFrame crc f) :
    7 ≤ f.length ∧ f.length ≤ 1029 := by
  have := h.lenNonzero
  have := h.size
  have := specU_lt f 14 10
  omega

/-- Every typed message the handler delivers is 7 to 1029 bytes long: nothing shorter than the
    smallest frame and nothing longer than the largest is ever presented as a typed message. -/
theorem stream_typed_size (crc : Bytes → Nat) (bs : Bytes) (m : Msg)
    (hm : m ∈ segment crc (In.ofBytes bs)) (htyp : 0 ≤ m.typ) :
    7 ≤ m.raw.length ∧ m.raw.length ≤ 1029 ∧ m.typ < 4096 := by
  obtain ⟨hv, ht, -⟩ := stream_typed_valid crc bs m hm htyp
  obtain ⟨h7, h1029⟩ := validFrame_size_bounds crc m.raw hv
  have := specU_lt m.raw 24 12
  exact ⟨h7, h1029, by rw [ht, typeOf]; omega⟩

/-! Non-vacuity (tests): a concrete valid 1005-typed frame with a two-byte payload meets the premises. -/
def sampleFrame : Bytes := [0xD3, 0x00, 0x02, 0x3E, 0xD0] ++ crcBytes (crc24q [0xD3, 0x00, 0x02, 0x3E, 0xD0])

example : getMessageCore crc24q sampleFrame = .msg { typ := 1005, raw := sampleFrame } := by
  decide +kernel

example : scan ([0x41, 0x42] ++ sampleFrame ++ [0xD3]) = .junk [0x41, 0x42] (sampleFrame ++ [0xD3]) := by
  decide +kernel

example : scan (sampleFrame ++ [0xD3]) = .frame sampleFrame [0xD3] := by decide +kernel

example : msgOfFrame crc24q sampleFrame = { typ := 1005, raw := sampleFrame } := by decide +kernel

end Ntrip.C01
