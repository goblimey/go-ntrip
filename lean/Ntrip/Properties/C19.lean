import Ntrip.Properties.C09
import Ntrip.Properties.C02
import Ntrip.Properties.C07
import Ntrip.Proofs.Report
import Ntrip.Proofs.Queue
/-!
# C19 — the proxy relays both directions byte-for-byte and reports traffic safely

Relay: `handleClientMessages` reads a chunk from the client, feeds its bytes one by one to
the parser's byte channel, records the buffer for the report and writes the chunk upstream;
`handleServerMessages` copies server chunks to the client.  The parser leg (byte channel →
`HandleMessages` → message channel → `keepCircularQueueUpdated`) is the pipeline transition
system of C09 with one consumer on an unbuffered channel.

Report: `Status` fills the five holes of `reportFormat`; the traffic-derived holes (the two
hex dumps and the message list) pass through `Sanitise`.

TCP, `net/http` and TLS are not modelled (trusted; exercised by the loopback runs).
-/
namespace Ntrip.C19
open Ntrip.Pipe

/-- The client loop over the chunks `Read` returned: the bytes fed to the parser and the bytes
    written upstream. -/
def clientLoop : List Bytes → Bytes × Bytes
  | [] => ([], [])
  | chunk :: rest => let (fed, up) := clientLoop rest; (chunk ++ fed, chunk ++ up)

theorem clientLoop_eq : ∀ chunks : List Bytes, clientLoop chunks = (chunks.flatten, chunks.flatten)
  | [] => rfl
  | c :: rest => by rw [clientLoop, clientLoop_eq rest]; rfl

/-- **Byte-for-byte relay** (both directions are this loop; the server direction has no
    parser): the upstream server receives exactly the client's bytes, in order, regardless of
    the chunking and of what the bytes are; the parser is fed the same bytes. -/
theorem relay_exact : ∀ chunks : List Bytes,
    (clientLoop chunks).2 = chunks.flatten ∧ (clientLoop chunks).1 = chunks.flatten :=
  fun chunks => clientLoop_eq chunks ▸ ⟨rfl, rfl⟩

/-- The parser leg never blocks the relay: whatever the traffic (valid RTCM, malformed RTCM or
    anything else), some goroutine of the leg can always move until every client byte has been
    accepted, under every schedule; and every schedule is finite.  (The parser cannot crash
    either: C07.) -/
theorem parser_never_blocks {crc bs produced} (ht : C09.Timing crc bs produced) {s}
    (h : Reach (C09.pipeCfg crc bs produced 1 (fun _ => 0) (fun _ => false)) s)
    (hnf : ¬ Final (C09.pipeCfg crc bs produced 1 (fun _ => 0) (fun _ => false)) s) :
    ∃ s', Step (C09.pipeCfg crc bs produced 1 (fun _ => 0) (fun _ => false)) s s' :=
  C09.pipeline_progress ht 1 _ _ h hnf

theorem parser_leg_finite {crc bs produced} (ht : C09.Timing crc bs produced) {s s'}
    (h : Reach (C09.pipeCfg crc bs produced 1 (fun _ => 0) (fun _ => false)) s)
    (hs : Step (C09.pipeCfg crc bs produced 1 (fun _ => 0) (fun _ => false)) s s') :
    measure (C09.pipeCfg crc bs produced 1 (fun _ => 0) (fun _ => false)) s' <
      measure (C09.pipeCfg crc bs produced 1 (fun _ => 0) (fun _ => false)) s :=
  C09.pipeline_terminates ht 1 _ _ h hs

/-- **The report lists only relayed data**: every message the parser produces — hence every
    message in the recent-message queue — consists of a contiguous slice of the bytes read from
    the client (all of which the relay writes upstream). -/
theorem listed_are_relayed (crc : Bytes → Nat) (bs : Bytes) (m : Msg)
    (hm : m ∈ segment crc (In.ofBytes bs)) : m.raw <:+: bs :=
  C02.segment_lossless crc bs ▸ List.infix_of_mem_flatten (List.mem_map_of_mem (f := (·.raw)) hm)

/-- **Sanitise removes every markup character**, whatever the text. -/
theorem sanitise_no_markup (s : List Char) : '<' ∉ sanitise s ∧ '>' ∉ sanitise s := sanitise_no_lt s

/-- **The page cannot be injected into**: with the two hex dumps and the message list passed
    through `Sanitise` (and leaders that contain no markup: a connection number and a
    formatted time), the page has exactly the `<` and `>` of the template — relayed data adds none. -/
theorem page_safe (parts : List (List Char)) (clientLeader serverLeader clientDump serverDump : List Char)
    (texts : List (List Char))
    (hl1 : '<' ∉ clientLeader ∧ '>' ∉ clientLeader) (hl2 : '<' ∉ serverLeader ∧ '>' ∉ serverLeader) :
    let page := fill parts [clientLeader, sanitise clientDump, serverLeader, sanitise serverDump, messageDisplay texts]
    countC '<' page = (parts.map (countC '<')).sum ∧ countC '>' page = (parts.map (countC '>')).sum := by
  have hclean : ∀ h ∈ [clientLeader, sanitise clientDump, serverLeader, sanitise serverDump, messageDisplay texts],
      '<' ∉ h ∧ '>' ∉ h := by
    simp only [List.forall_mem_cons]
    exact ⟨hl1, sanitise_no_lt _, hl2, sanitise_no_lt _, messageDisplay_no_markup texts, nofun⟩
  exact ⟨countC_fill _ _ _ fun h hh => (hclean h hh).1, countC_fill _ _ _ fun h hh => (hclean h hh).2⟩

/-- Text without markup is reported unchanged (the sanitiser only touches `<` and `>`). -/
theorem sanitise_id_of_clean : ∀ (s : List Char), '<' ∉ s → '>' ∉ s → sanitise s = s
  | [], _, _ => rfl
  | c :: rest, h1, h2 => by
    rw [List.mem_cons, not_or] at h1 h2
    rw [sanitise, if_neg (Ne.symm h1.1), if_neg (Ne.symm h2.1), sanitise_id_of_clean rest h1.2 h2.2]

/-- Sanitising twice equals sanitising once: already escaped text is not escaped again. -/
theorem sanitise_idempotent (s : List Char) : sanitise (sanitise s) = sanitise s :=
  sanitise_id_of_clean _ (sanitise_no_markup s).1 (sanitise_no_markup s).2

/-- The relay does not depend on how the client's bytes arrive in chunks. -/
theorem relay_chunking_irrelevant (c1 c2 : List Bytes) (h : c1.flatten = c2.flatten) :
    clientLoop c1 = clientLoop c2 := by
  rw [clientLoop_eq, clientLoop_eq, h]

/-! Non-vacuity (tests). -/
example : sanitise "<script>alert(1)</script>".toList = "&lt;script&gt;alert(1)&lt;/script&gt;".toList := by
  rw [String.toList_ofList, String.toList_ofList]; rfl
example : clientLoop [[1, 2], [3]] = ([1, 2, 3], [1, 2, 3]) := by decide

end Ntrip.C19
