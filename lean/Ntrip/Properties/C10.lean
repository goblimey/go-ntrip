import Ntrip.Properties.C11
import Ntrip.Properties.C03
/-!
# C10 — rtcmfilter emits exactly the valid RTCM frames of its input, in order

rtcmfilter's `HandleMessages` is the pipeline of C09/C11 with up to three writers on
unbuffered channels: writer 0 = `writeRTCMMessages` on the output writer, then (if display
is on) `writeReadableMessages` on the readable log, then (if recording is on)
`writeRTCMMessages` on the daily record file.  What a writer emits for the messages it has
handled is a function of that list: `rtcmBytes` for `writeRTCMMessages` (skip the non-RTCM
sentinel, write the raw bytes), one entry per message for `writeReadableMessages`.
-/
namespace Ntrip.C10
open Ntrip.Pipe

/-- What `writeRTCMMessages` writes for the messages it handled: the raw bytes of every
    message that is not the non-RTCM sentinel, in order. -/
def rtcmBytes (ms : List Msg) : Bytes := ((ms.filter (fun m => m.typ != -1)).map (·.raw)).flatten

theorem rtcmBytes_append (a b : List Msg) : rtcmBytes (a ++ b) = rtcmBytes a ++ rtcmBytes b := by
  simp [rtcmBytes]

theorem rtcmBytes_cons (m : Msg) (ms : List Msg) :
    rtcmBytes (m :: ms) = (if m.typ = -1 then [] else m.raw) ++ rtcmBytes ms := by
  by_cases h : m.typ = -1 <;> simp [rtcmBytes, h]

/-- What `writeReadableMessages` writes: one entry per handled message. -/
def displayEntries (ms : List Msg) : Nat := ms.length

/-- **Output.** Whatever the configuration of the optional logs (`k` writers), the timing and
    the schedule: once `HandleMessages` has returned, the bytes written to the output are
    the raw bytes of the typed messages of sequential framing, in input order — … -/
theorem filter_output (crc bs produced k) (hc : (C11.filterCfg crc bs produced k).WF) {s}
    (h : Reach (C11.filterCfg crc bs produced k) s) (hr : s.mainReturned = true) (hk : 0 < k) :
    rtcmBytes (s.handled 0) = rtcmBytes (segment crc (In.ofBytes bs)) := by
  rw [C11.filter_returned_all_written crc bs produced k hc h hr 0 hk]

/-- … the record file (any other `writeRTCMMessages` writer) receives the same bytes, and the
    readable log one entry per delivered message. -/
theorem filter_record_and_display (crc bs produced k) (hc : (C11.filterCfg crc bs produced k).WF) {s}
    (h : Reach (C11.filterCfg crc bs produced k) s) (hr : s.mainReturned = true) (i : Nat) (hi : i < k) :
    rtcmBytes (s.handled i) = rtcmBytes (segment crc (In.ofBytes bs)) ∧
    displayEntries (s.handled i) = (segment crc (In.ofBytes bs)).length := by
  rw [C11.filter_returned_all_written crc bs produced k hc h hr i hi]; exact ⟨rfl, rfl⟩

/-- Nothing but valid frames: every message whose bytes are written is exactly one valid
    RTCM3 frame (so no non-RTCM data, no corrupted or partial frame reaches the output). -/
theorem output_only_valid_frames (crc : Bytes → Nat) (bs : Bytes) (m : Msg)
    (hm : m ∈ (segment crc (In.ofBytes bs)).filter (fun m => m.typ != -1)) : ValidFrame crc m.raw := by
  simp only [List.mem_filter, bne_iff_ne, ne_eq] at hm
  obtain ⟨hmem, hne⟩ := hm
  rw [handleMessages_eq] at hmem
  -- of the three kinds of delivered message only the valid frame has a type other than -1
  rcases segmentS_mem crc bs m hmem with ⟨raw, _, rfl⟩ | ⟨f, hv, rfl⟩ | ⟨f, _, rfl⟩
  · exact absurd rfl hne
  · exact hv
  · exact absurd rfl hne

theorem typeOf_ne (f : Bytes) : typeOf f ≠ -1 := by unfold typeOf; omega

/-- No omission, duplication or reordering: for a stream made of valid frames, runs of other
    data and CRC-corrupted frames (C03/C12), the output is exactly the concatenation of the
    valid frames in input order. -/
theorem output_is_the_valid_frames (crc : Bytes → Nat) (segs : List Seg) (tail : Bytes)
    (hwf : ∀ s ∈ segs, s.WF crc) (htail : TruncTail crc tail) :
    rtcmBytes (segment crc (In.ofBytes (streamOf segs tail))) =
      ((normalise segs).filterMap (fun s => match s with | .frame f => some f | _ => none)).flatten := by
  rw [handleMessages_eq, segmentS_recognises crc tail htail segs hwf, rtcmBytes_append]
  have htl : rtcmBytes (expectedTail tail) = [] := by unfold expectedTail; split <;> rfl
  rw [htl, List.append_nil]
  induction normalise segs with
  | nil => rfl
  | cons s rest ih => cases s <;> simp [rtcmBytes_cons, Seg.expected, nonRTCM, typeOf_ne, ih]

/-- On a clean stream (valid frames only, back to back) the filter is the identity. -/
theorem clean_stream_unchanged (crc : Bytes → Nat) (fs : List Bytes) (hv : ∀ f ∈ fs, ValidFrame crc f) :
    rtcmBytes (segment crc (In.ofBytes fs.flatten)) = fs.flatten := by
  rw [C03.back_to_back_frames crc fs hv]
  induction fs with
  | nil => rfl
  | cons f fs ih => simp [rtcmBytes_cons, typeOf_ne, ih fun g hg => hv g (List.mem_cons_of_mem _ hg)]

/-- Filtering is idempotent: running the filter's output through the filter again changes nothing. -/
theorem filter_idempotent (crc : Bytes → Nat) (segs : List Seg) (tail : Bytes)
    (hwf : ∀ s ∈ segs, s.WF crc) (htail : TruncTail crc tail) :
    rtcmBytes (segment crc (In.ofBytes (rtcmBytes (segment crc (In.ofBytes (streamOf segs tail)))))) =
      rtcmBytes (segment crc (In.ofBytes (streamOf segs tail))) := by
  rw [output_is_the_valid_frames crc segs tail hwf htail]
  apply clean_stream_unchanged
  intro f hf
  obtain ⟨s, hs, hsf⟩ := List.mem_filterMap.mp hf
  cases s <;> simp at hsf
  exact hsf ▸ normalise_wf crc segs hwf _ hs

/-! Non-vacuity (tests). -/
example : rtcmBytes [{ typ := -1, raw := [1, 2] }, { typ := 1005, raw := [0xD3, 0] }, { typ := -1, raw := [9] }] = [0xD3, 0] := by
  decide

end Ntrip.C10
