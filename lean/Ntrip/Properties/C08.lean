import Ntrip.Proofs.Range
import Ntrip.Generated.Tables
import Ntrip.Proofs.F64
/-!
# C08 — ranges, phase ranges and range rates equal the standard's formulas

Exact layer (proved): the scaled integers the cells compute are exactly the standard's sums
(units 2^-29 ms for ranges, 2^-31 ms for phase ranges, 10^-4 m/s for rates), the 'invalid'
markers behave as stated, MSM4 and MSM7 encodings of the same quantity agree, and the
frequency tables are the documented bands (regenerated from the source).

Float layer: all four reported quantities are modelled in exact binary64 arithmetic (`F64`) and
proved accurate for every input: the range in metres (`float64(scaled)/2^29 * 299792.458`, MSM4
and MSM7) to 2^-51, the range rate in m/s (`float64(scaled)/10000`) to 2^-53, the phase range in
cycles (`fl(fl(scaled/2^31 · 299792.458) / wavelength)`) and the Doppler in Hz
(`-fl(fl(scaled/10000) / wavelength)`), with `wavelength = fl(299792458 / f)`, to 2^-50 for every
carrier frequency of the regenerated tables.  The model is compared bit for bit with the hardware
results on every generated cell.
-/
namespace Ntrip.C08

/-- Range, MSM7: whole ms (0…254), fractional/1024, fine × 2^-29 — as one scaled integer
    `(whole + frac/1024 + fine·2^-29) · 2^29`, whenever the true value is non-negative. -/
theorem range7_exact (whole frac : Nat) (delta : Int) (hw : whole ≤ 254) (hf : frac ≤ 1023)
    (hd1 : -(2^19 : Int) < delta) (hd2 : delta < 2^19)
    (hnn : 0 ≤ (whole * 2^29 + frac * 2^19 : Nat) + delta) :
    (aggregateRange7 whole frac delta : Int) = (whole * 2^29 + frac * 2^19 : Nat) + delta := by
  rw [aggregateRange7_eq, if_neg (by omega), if_neg (by omega)]
  exact scaledValue_fields whole frac 19 10 8 delta (by omega) (by omega) (by decide) (by omega) hnn

/-- Range, MSM4: the 15-bit fine value has weight 2^-24 ms (= 32 · 2^-29). -/
theorem range4_exact (whole frac : Nat) (delta : Int) (hw : whole ≤ 254) (hf : frac ≤ 1023)
    (hd1 : -(2^14 : Int) < delta) (hd2 : delta < 2^14)
    (hnn : 0 ≤ (whole * 2^29 + frac * 2^19 : Nat) + delta * 32) :
    (aggregateRange4 whole frac delta : Int) = (whole * 2^29 + frac * 2^19 : Nat) + delta * 32 := by
  rw [aggregateRange4_eq, if_neg (by omega), if_neg (by omega)]
  exact scaledValue_fields whole frac 19 10 8 (delta * 32) (by omega) (by omega) (by decide) (by omega) hnn

/-- Phase range, MSM7: `(whole + frac/1024 + fine·2^-31) · 2^31`. -/
theorem phase7_exact (whole frac : Nat) (delta : Int) (hw : whole ≤ 254) (hf : frac ≤ 1023)
    (hd1 : -(2^23 : Int) < delta) (hd2 : delta < 2^23)
    (hnn : 0 ≤ (whole * 2^31 + frac * 2^21 : Nat) + delta) :
    (aggregatePhase7 whole frac delta : Int) = (whole * 2^31 + frac * 2^21 : Nat) + delta := by
  rw [aggregatePhase7_eq, if_neg (by omega), if_neg (by omega)]
  exact scaledValue_fields whole frac 21 10 8 delta (by omega) (by omega) (by decide) (by omega) hnn

/-- Phase range, MSM4: the 22-bit fine value has weight 2^-29 ms (= 4 · 2^-31). -/
theorem phase4_exact (whole frac : Nat) (delta : Int) (hw : whole ≤ 254) (hf : frac ≤ 1023)
    (hd1 : -(2^21 : Int) < delta) (hd2 : delta < 2^21)
    (hnn : 0 ≤ (whole * 2^31 + frac * 2^21 : Nat) + delta * 4) :
    (aggregatePhase4 whole frac delta : Int) = (whole * 2^31 + frac * 2^21 : Nat) + delta * 4 := by
  rw [aggregatePhase4_eq, if_neg (by omega), if_neg (by omega)]
  exact scaledValue_fields whole frac 21 10 8 (delta * 4) (by omega) (by omega) (by decide) (by omega) hnn

/-- Range rate, MSM7: `rough + fine/10000` m/s, as an integer in units of 10^-4 m/s. -/
theorem rate7_exact (rate delta : Int) (h1 : rate ≠ -8192) (h2 : delta ≠ -16384) :
    aggregateRate7 rate delta = rate * 10000 + delta := by
  rw [aggregateRate7_eq, if_neg h1, if_pos h2]

/-- An invalid rough range (whole = 255) makes range and phase range invalid (zero). -/
theorem invalid_rough (frac : Nat) (d : Int) :
    aggregateRange7 255 frac d = 0 ∧ aggregateRange4 255 frac d = 0 ∧
    aggregatePhase7 255 frac d = 0 ∧ aggregatePhase4 255 frac d = 0 := by
  simp [aggregateRange7_eq, aggregateRange4_eq, aggregatePhase7_eq, aggregatePhase4_eq]

/-- An invalid rough rate makes the rate invalid (zero). -/
theorem invalid_rough_rate (d : Int) : aggregateRate7 (-8192) d = 0 := by
  simp [aggregateRate7_eq]

/-- An invalid fine value falls back to the rough value alone — for each of the five fine fields. -/
theorem invalid_fine_falls_back (whole frac : Nat) (rate : Int) (hw : whole ≠ 255) (hr : rate ≠ -8192) :
    aggregateRange7 whole frac (-524288) = scaledValue whole 29 frac 19 0 ∧
    aggregateRange4 whole frac (-16384) = scaledValue whole 29 frac 19 0 ∧
    aggregatePhase7 whole frac (-8388608) = scaledValue whole 31 frac 21 0 ∧
    aggregatePhase4 whole frac (-2097152) = scaledValue whole 31 frac 21 0 ∧
    aggregateRate7 rate (-16384) = rate * 10000 := by
  simp [aggregateRange7_eq, aggregateRange4_eq, aggregatePhase7_eq, aggregatePhase4_eq, aggregateRate7_eq, hw, hr]

/-- The rough value alone is `(whole + frac/1024)` scaled. -/
theorem rough_only (whole frac : Nat) (hw : whole ≤ 254) (hf : frac ≤ 1023) :
    scaledValue whole 29 frac 19 0 = whole * 2^29 + frac * 2^19 ∧
    scaledValue whole 31 frac 21 0 = whole * 2^31 + frac * 2^21 := by
  have h1 : (scaledValue whole 29 frac 19 0 : Int) = _ := scaledValue_fields whole frac 19 10 8 0 (by omega) (by omega) (by decide) (by decide) (by omega)
  have h2 : (scaledValue whole 31 frac 21 0 : Int) = _ := scaledValue_fields whole frac 21 10 8 0 (by omega) (by omega) (by decide) (by decide) (by omega)
  omega

/-- An MSM4 and an MSM7 cell encoding the same quantity yield the same scaled integers
    (hence the same floats): fine range ×32, fine phase ×4. -/
theorem msm4_eq_msm7 (whole frac : Nat) (d4 p4 : Int) (hd : d4 ≠ -16384) (hp : p4 ≠ -2097152) :
    aggregateRange4 whole frac d4 = aggregateRange7 whole frac (d4 * 32) ∧
    aggregatePhase4 whole frac p4 = aggregatePhase7 whole frac (p4 * 4) := by
  rw [aggregateRange4_eq, aggregateRange7_eq, aggregatePhase4_eq, aggregatePhase7_eq, if_neg hd, if_neg hp,
    if_neg (by omega : ¬ d4 * 32 = -524288), if_neg (by omega : ¬ p4 * 4 = -8388608)]
  exact ⟨rfl, rfl⟩

/-- Values whose true sum is negative are outside the property (the `uint64` cast wraps): -/
example : scaledValue 0 29 0 19 (-1) = 2^64 - 1 := by decide

/-- Tie T1: the carrier frequencies per constellation and signal id are the documented bands
    (GPS L1/L2/L5, Galileo E1/E6/E5b/E5a+b/E5a, GLONASS G1/G2, BeiDou B1/B3/B2), everything
    else has no wavelength; wavelength = c / frequency with c = 299 792 458 m/s. -/
theorem frequency_tables :
    Gen.utils_getSignalFrequencyGPS = some ([(2, 1575420000), (3, 1575420000), (4, 1575420000),
      (8, 1227600000), (9, 1227600000), (10, 1227600000), (15, 1227600000), (16, 1227600000), (17, 1227600000),
      (22, 1176450000), (23, 1176450000), (24, 1176450000), (30, 1575420000), (31, 1575420000), (32, 1575420000)], 0) ∧
    Gen.utils_getSignalFrequencyGalileo = some ([(2, 1575420000), (3, 1575420000), (4, 1575420000), (5, 1575420000),
      (6, 1575420000), (8, 1278750000), (9, 1278750000), (10, 1278750000), (11, 1278750000), (12, 1278750000),
      (14, 1207140000), (15, 1207140000), (16, 1207140000), (18, 1191795000), (19, 1191795000), (20, 1191795000),
      (22, 1176450000), (23, 1176450000), (24, 1176450000)], 0) ∧
    Gen.utils_getSignalFrequencyGlonass = some ([(2, 1602000000), (3, 1602000000), (8, 1246000000), (9, 1246000000)], 0) ∧
    Gen.utils_getSignalFrequencyBeidou = some ([(2, 1561098000), (3, 1561098000), (4, 1561098000),
      (8, 1268520000), (9, 1268520000), (10, 1268520000), (14, 1176450000), (15, 1176450000), (16, 1176450000)], 0) ∧
    Gen.utils_SpeedOfLightMS = 299792458 ∧ Gen.utils_OneLightMillisecond = 299792458 / 1000 :=
  ⟨rfl, rfl, rfl, rfl, by decide +kernel, by decide +kernel⟩

theorem wavelength_shapes :
    Gen.utils_GetSignalWavelength = some ([("GPS", "getSignalWavelengthGPS()"), ("Galileo", "getSignalWavelengthGalileo()"),
      ("Glonass", "getSignalWavelengthGlonass()"), ("Beidou", "getSignalWavelengthBeidou()")], "0") ∧
    Gen.utils_getSignalWavelengthGPS_shape = "frequency:=getSignalFrequencyGPS(); if frequency==0 {return 0}; return SpeedOfLightMS/frequency" ∧
    Gen.utils_getSignalWavelengthGalileo_shape = "frequency:=getSignalFrequencyGalileo(); if frequency==0 {return 0}; return SpeedOfLightMS/frequency" ∧
    Gen.utils_getSignalWavelengthGlonass_shape = "frequency:=getSignalFrequencyGlonass(); if frequency==0 {return 0}; return SpeedOfLightMS/frequency" ∧
    Gen.utils_getSignalWavelengthBeidou_shape = "frequency:=getSignalFrequencyBeidou(); if frequency==0 {return 0}; return SpeedOfLightMS/frequency" :=
  ⟨rfl, rfl, rfl, rfl, rfl⟩

/-- The range in metres as the Go code computes it from an aggregate range (MSM7
    `RangeInMetres`, MSM4 `RangeInMillis`/`RangeInMetres`), in the exact binary64 model. -/
def rangeMetres (scaled : Nat) : F64.Val := F64.mul (F64.scale2 (F64.ofInt scaled) (-29)) F64.cLightMs

/-- The range rate in m/s (`PhaseRangeRate`), in the exact binary64 model. -/
def rateMetresPerSecond (scaled : Int) : F64.Val := F64.divConst (F64.ofInt scaled) 10000

/-- The light-millisecond constant: 299792.458 in the source (tie T1) and its nearest binary64
    in the model. -/
theorem light_constant :
    Gen.utils_OneLightMillisecond = 299792458 / 1000 ∧
    F64.rhe (299792458 * 2 ^ 34) 1000 = F64.cLightMs.m ∧ F64.bitLen F64.cLightMs.m.natAbs = 53 := by
  refine ⟨by decide +kernel, by decide +kernel, by decide +kernel⟩

/-- **Range in metres, to within floating-point rounding**: for every aggregate range (any field
    values) the computed float differs from `scaled / 2^29 × 299792.458` by at most 2^-51 of it.
    Stated over the integers: both sides times `1000 · 2^63` (the float's exponent is at least `-29 - 34`);
    the two theorems after it likewise at scales at which the float is an integer
    (`2^78 = 2^(64 + bitLen 10000)`, `2^128`, `2^141`: `F64.carrier_wavelengths`). -/
theorem range_metres_accurate (scaled : Nat) (h : scaled < 2 ^ 41) :
    2 ^ 51 * (1000 * (rangeMetres scaled).scaled 63 - scaled * 299792458 * 2 ^ 34) ≤ scaled * 299792458 * 2 ^ 34 ∧
    -((scaled : Int) * 299792458 * 2 ^ 34) ≤ 2 ^ 51 * (1000 * (rangeMetres scaled).scaled 63 - scaled * 299792458 * 2 ^ 34) := by
  have h2 := (F64.rangeMetres_err scaled (by omega)).bound 51 (by decide)
  rwa [Int.natAbs_of_nonneg (Int.mul_nonneg (Int.mul_nonneg (by omega) (by decide)) (by decide))] at h2

/-- Every valid MSM7/MSM4 cell is covered: its aggregate range is below 2^41. -/
theorem range7_bound (whole frac : Nat) (delta : Int) (hw : whole ≤ 254) (hf : frac ≤ 1023)
    (hd1 : -(2 ^ 19 : Int) < delta) (hd2 : delta < 2 ^ 19)
    (hnn : 0 ≤ (whole * 2 ^ 29 + frac * 2 ^ 19 : Nat) + delta) :
    aggregateRange7 whole frac delta < 2 ^ 41 := by
  have := range7_exact whole frac delta hw hf hd1 hd2 hnn
  omega

/-- **Range rate in m/s is correctly rounded**: at most 2^-53 of its value away from `scaled / 10^4`. -/
theorem rate_accurate (scaled : Int) (h : scaled.natAbs < 2 ^ 53) :
    2 ^ 53 * (10000 * (rateMetresPerSecond scaled).scaled 78 - scaled * 2 ^ 78) ≤ (scaled.natAbs : Int) * 2 ^ 78 ∧
    -((scaled.natAbs : Int) * 2 ^ 78) ≤ 2 ^ 53 * (10000 * (rateMetresPerSecond scaled).scaled 78 - scaled * 2 ^ 78) := by
  by_cases h0 : scaled = 0
  · subst h0; decide
  · have h2 := (F64.rate_err scaled h h0).bound 53 (by decide)
    rw [Int.natAbs_mul, Int.natAbs_pow] at h2
    simpa [rateMetresPerSecond] using h2

example : F64.ieee (rangeMetres (81 * 2 ^ 29 + 435 * 2 ^ 19 - 26835)) = (false, 1047, 6552651041628382) := by decide +kernel

/-- A regenerated frequency table is covered: it was read (`some`), its default is "no frequency"
    (0), and every row's frequency is positive and one of the ten carrier frequencies. -/
def tableCovered : Option (List (Nat × Int) × Int) → Bool
  | some (rows, dflt) => dflt == 0 && rows.all (fun r => decide (0 < r.2) && F64.carrierFrequencies.contains r.2.toNat)
  | none => false

/-- Every frequency in the regenerated signal tables is one of the ten carrier frequencies the
    accuracy theorems cover. -/
theorem frequencies_covered :
    tableCovered Gen.utils_getSignalFrequencyGPS = true ∧ tableCovered Gen.utils_getSignalFrequencyGalileo = true ∧
    tableCovered Gen.utils_getSignalFrequencyGlonass = true ∧ tableCovered Gen.utils_getSignalFrequencyBeidou = true := by
  refine ⟨by decide +kernel, by decide +kernel, by decide +kernel, by decide +kernel⟩

/-- **Phase range in cycles, to within floating-point rounding**: for every carrier frequency of
    the tables and every aggregate phase range (units 2^-31 ms), the computed float is within 2^-50
    of `scaled · f / (2^31 · 1000)` — i.e. of (whole + frac/1024 + phase·2^-31) ms × c ÷ wavelength. -/
theorem cycles_accurate (f : Nat) (hf : f ∈ F64.carrierFrequencies) (scaled : Nat) (h1 : 1 ≤ scaled) (h : scaled < 2 ^ 41) :
    2 ^ 50 * ((F64.phaseCycles scaled f).scaled 128 * (2 ^ 31 * 1000) - scaled * f * 2 ^ 128) ≤ scaled * f * 2 ^ 128 ∧
    -((scaled : Int) * f * 2 ^ 128) ≤ 2 ^ 50 * ((F64.phaseCycles scaled f).scaled 128 * (2 ^ 31 * 1000) - scaled * f * 2 ^ 128) := by
  obtain ⟨hf1, hf2, hw⟩ := F64.carrier_wavelengths f hf
  have he := F64.phaseCycles_e_ge scaled f h1 (by omega)
  have h2 := ((F64.approx_phaseCycles scaled f h1 (by omega) hf1 hf2).scaled 128 (by omega)).bound 50 (by decide)
  rwa [Int.natAbs_of_nonneg (Int.mul_nonneg (Int.mul_nonneg (by omega) (by omega)) (by decide))] at h2

/-- **Doppler in Hz, to within floating-point rounding**: within 2^-50 of `-(scaled/10000) · f / c`. -/
theorem doppler_accurate (f : Nat) (hf : f ∈ F64.carrierFrequencies) (scaled : Int) (h : scaled.natAbs < 2 ^ 53) (h0 : scaled ≠ 0) :
    2 ^ 50 * ((F64.dopplerHz scaled f).scaled 141 * (10000 * 299792458) + scaled * f * 2 ^ 141) ≤ (scaled.natAbs : Int) * f * 2 ^ 141 ∧
    -((scaled.natAbs : Int) * f * 2 ^ 141) ≤ 2 ^ 50 * ((F64.dopplerHz scaled f).scaled 141 * (10000 * 299792458) + scaled * f * 2 ^ 141) := by
  obtain ⟨hf1, hf2, hw⟩ := F64.carrier_wavelengths f hf
  have he := F64.dopplerHz_e_ge scaled f h h0
  have h2 := ((F64.approx_dopplerHz scaled f h h0 hf1 hf2).scaled 141 (by omega)).bound 50 (by decide)
  rw [Int.neg_mul, Int.sub_neg, Int.natAbs_neg, Int.natAbs_mul, Int.natAbs_mul, Int.natAbs_pow] at h2
  simpa using h2

/-- A zero aggregate gives exactly zero (no rounding involved). -/
example : F64.phaseCycles 0 1575420000 = { m := 0, e := 0 } ∧ (F64.dopplerHz 0 1575420000).m = 0 := by decide +kernel

/-- **Translator tie**: the Lean functions that `extract/translate.go` regenerates from the Go
    source of `getScaledValue`, `GetScaledRange`, `GetScaledPhaseRange` and
    `GetScaledPhaseRangeRate` on every run (wrapping 64-bit arithmetic, conversions and all) are
    the model's functions — for every argument.  For this arithmetic the theorems above are
    therefore about what the code says now, not about a hand-written copy. -/
theorem translated_is_model :
    (∀ v1 s1 v2 s2 delta, Gen.fn_utils_getScaledValue v1 s1 v2 s2 delta = scaledValue v1 s1 v2 s2 delta) ∧
    (∀ w f d, Gen.fn_utils_GetScaledRange w f d = scaledValue w 29 f 19 d) ∧
    (∀ w f d, Gen.fn_utils_GetScaledPhaseRange w f d = scaledValue w 31 f 21 d) ∧
    (∀ rate delta, -(2 ^ 13 : Int) ≤ rate ∧ rate < 2 ^ 13 → -(2 ^ 14 : Int) ≤ delta ∧ delta < 2 ^ 14 →
      Gen.fn_utils_GetScaledPhaseRangeRate rate delta = rate * 10000 + delta) := by
  refine ⟨translated_getScaledValue, fun _ _ _ => translated_getScaledValue .., fun _ _ _ => translated_getScaledValue ..,
    fun rate delta hr hd => ?_⟩
  unfold Gen.fn_utils_GetScaledPhaseRangeRate
  simp only [Go64.mulI, Go64.addI]
  rw [wrapI_of_range (rate * 10000) (by omega), wrapI_of_range _ (by omega)]

/-! Non-vacuity (tests). -/
example : aggregateRange7 81 435 (-26835) = 81 * 2^29 + 435 * 2^19 - 26835 := by decide
example : aggregateRange4 81 435 (-839) = aggregateRange7 81 435 (-26848) := by decide

end Ntrip.C08
