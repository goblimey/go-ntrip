import Ntrip.Proofs.PipeProgress
import Ntrip.Proofs.PipeTerm
import Ntrip.Properties.C02
/-!
# C09 — the reader-to-sinks pipeline delivers the same messages under every schedule

`Ntrip.Pipe` (Model/Pipeline.lean) is the transition system of the goroutines and channels
of `file_handler.Handle` (reader R), `handler.HandleMessages` (framer F),
`appcore.HandleMessagesUntilEOF` (fan-out D), the consumers W_i and the caller that closes
the consumer channels afterwards.  `pipeCfg` instantiates it for a byte stream `bs`: the
sequence every consumer must get is `segment crc (In.ofBytes bs)` — sequential framing.
The theorems hold for **every** schedule (every path of the transition relation), every
number of consumers, every channel capacity (0 = unbuffered), any nil entries, every writer
latency (handling a message is two steps with arbitrary stuttering between) and every
timing of the framer (`produced`, about which only monotonicity is assumed).
-/
namespace Ntrip.C09
open Ntrip.Pipe

/-- The pipeline for stream `bs`: consumers `0 … k-1` with capacities `cap`, nil entries
    `isNil`; afterwards the caller closes every non-nil consumer channel and waits. -/
def pipeCfg (crc : Bytes → Nat) (bs : Bytes) (produced : Nat → Bool → Nat) (k : Nat) (cap : Nat → Nat)
    (isNil : Nat → Bool) : Cfg Msg :=
  { nBytes := bs.length, out := segment crc (In.ofBytes bs), produced := produced, k := k, cap := cap,
    isNil := isNil, closes := fun i => !isNil i, waits := true }

/-- Admissible timings of the framer: it never produces more than the sequential output,
    never un-produces, and has produced everything once it has seen all bytes and the close. -/
structure Timing (crc : Bytes → Nat) (bs : Bytes) (produced : Nat → Bool → Nat) : Prop where
  le : ∀ r b, produced r b ≤ (segment crc (In.ofBytes bs)).length
  mono : ∀ r r' b b', r ≤ r' → (b = true → b' = true) → produced r b ≤ produced r' b'
  final : produced bs.length true = (segment crc (In.ofBytes bs)).length

theorem cfg_wf {crc bs produced} (ht : Timing crc bs produced) (k cap isNil) :
    (pipeCfg crc bs produced k cap isNil).WF :=
  ⟨ht.le, ht.mono, ht.final, by intro i h; simpa [pipeCfg] using h⟩

/-- No send on a closed channel, no channel closed twice, no close of a nil channel: the panic
    state is unreachable under every schedule. -/
theorem pipeline_no_panic {crc bs produced} (ht : Timing crc bs produced) (k cap isNil) {s}
    (h : Reach (pipeCfg crc bs produced k cap isNil) s) : s.panic = false :=
  no_panic _ (cfg_wf ht k cap isNil) h

/-- At every moment every non-nil consumer has received a prefix of sequential framing. -/
theorem pipeline_prefix {crc bs produced} (ht : Timing crc bs produced) (k cap isNil) {s}
    (h : Reach (pipeCfg crc bs produced k cap isNil) s) (i : Nat) (hi : i < k) (hn : isNil i = false) :
    s.handled i <+: segment crc (In.ofBytes bs) :=
  handled_prefix _ (cfg_wf ht k cap isNil) h i hi hn

/-- When `HandleMessagesUntilEOF` has returned, every non-nil consumer has been sent exactly
    the sequential message sequence (types and raw bytes, in order). -/
theorem pipeline_returned_all_sent {crc bs produced} (ht : Timing crc bs produced) (k cap isNil) {s}
    (h : Reach (pipeCfg crc bs produced k cap isNil) s) (hd : s.dDone = true) (i : Nat) (hi : i < k)
    (hn : isNil i = false) :
    s.handled i ++ (s.wCur i).toList ++ s.buf i = segment crc (In.ofBytes bs) :=
  fanout_returned_all_sent _ (cfg_wf ht k cap isNil) h hd i hi hn

/-- Deadlock freedom: as long as something is unfinished, some goroutine can move. -/
theorem pipeline_progress {crc bs produced} (ht : Timing crc bs produced) (k cap isNil) {s}
    (h : Reach (pipeCfg crc bs produced k cap isNil) s) (hnf : ¬ Final (pipeCfg crc bs produced k cap isNil) s) :
    ∃ s', Step (pipeCfg crc bs produced k cap isNil) s s' :=
  progress _ (cfg_wf ht k cap isNil) (fun _ _ hn => congrArg (!·) hn) h hnf

/-- Every schedule is finite: each step strictly decreases a natural-number measure, so after
    at most `measure cfg init` steps nothing can move — the call has returned and every helper
    goroutine has reached its end. -/
theorem pipeline_terminates {crc bs produced} (ht : Timing crc bs produced) (k cap isNil) {s s'}
    (h : Reach (pipeCfg crc bs produced k cap isNil) s) (hs : Step (pipeCfg crc bs produced k cap isNil) s s') :
    measure (pipeCfg crc bs produced k cap isNil) s' < measure (pipeCfg crc bs produced k cap isNil) s :=
  terminates _ (cfg_wf ht k cap isNil) h hs

/-- **Delivery**: in every state where nothing can move any more, the call has returned, all
    helper goroutines have finished and every non-nil consumer has received exactly the
    message sequence that sequential framing of the same bytes produces. -/
theorem pipeline_delivers {crc bs produced} (ht : Timing crc bs produced) (k cap isNil) {s}
    (h : Reach (pipeCfg crc bs produced k cap isNil) s)
    (hstuck : ¬ ∃ s', Step (pipeCfg crc bs produced k cap isNil) s s') :
    s.mainReturned = true ∧ s.dDone = true ∧
    ∀ i, i < k → isNil i = false → s.wDone i = true ∧ s.handled i = segment crc (In.ofBytes bs) := by
  have hfin : Final (pipeCfg crc bs produced k cap isNil) s :=
    Classical.not_not.1 fun hnf => hstuck (pipeline_progress ht k cap isNil h hnf)
  have hwf := cfg_wf ht k cap isNil
  exact ⟨hfin.1, ((reach_inv _ hwf h).mr hfin.1).2.1, fun i hi hn =>
    ⟨hfin.2 i hi hn, done_all_handled _ hwf h i hi hn (hfin.2 i hi hn)⟩⟩

/-- At every moment and under every schedule any two consumers agree on what they have seen so
    far: one has handled a prefix of what the other has handled (no consumer sees a different
    message or a different order). -/
theorem consumers_agree {crc bs produced} (ht : Timing crc bs produced) (k cap isNil) {s}
    (h : Reach (pipeCfg crc bs produced k cap isNil) s) (i j : Nat) (hi : i < k) (hj : j < k)
    (hni : isNil i = false) (hnj : isNil j = false) :
    s.handled i <+: s.handled j ∨ s.handled j <+: s.handled i :=
  List.prefix_or_prefix_of_prefix (pipeline_prefix ht k cap isNil h i hi hni)
    (pipeline_prefix ht k cap isNil h j hj hnj)

/-- … and the raw bytes a consumer has handled are always a prefix of the input stream. -/
theorem handled_bytes_prefix {crc bs produced} (ht : Timing crc bs produced) (k cap isNil) {s}
    (h : Reach (pipeCfg crc bs produced k cap isNil) s) (i : Nat) (hi : i < k) (hn : isNil i = false) :
    ((s.handled i).map (·.raw)).flatten <+: bs := by
  obtain ⟨t, ht'⟩ := pipeline_prefix ht k cap isNil h i hi hn
  exact ⟨(t.map (·.raw)).flatten, by rw [← C02.segment_lossless crc bs, ← ht', List.map_append, List.flatten_append]⟩

/-! Non-vacuity: the timing "emit everything only after the close" is admissible for every
    stream (so the hypotheses of the theorems are satisfiable), and the initial state is reachable. -/
example (crc : Bytes → Nat) (bs : Bytes) :
    Timing crc bs (fun _ b => if b then (segment crc (In.ofBytes bs)).length else 0) :=
  ⟨fun _ => (flush_timing _).1, fun _ _ b b' _ => (flush_timing _).2 b b', rfl⟩

example (crc : Bytes → Nat) (bs : Bytes) (p) (k) (cap) (isNil) : Reach (pipeCfg crc bs p k cap isNil) (init Msg) := .init

end Ntrip.C09
