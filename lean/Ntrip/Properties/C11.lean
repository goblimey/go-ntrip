import Ntrip.Proofs.PipeInv
import Ntrip.Properties.C02
/-!
# C11 — when an application's message handling returns, all output has been written

Same transition system as C09 (`Ntrip.Pipe`), now with the application's `main` part:
after the fan-out returned, `HandleMessages` closes the writer channels and — this is the
point — waits for the writer goroutines before it returns (`waits = true`).
displayrtcm3: one writer on a channel of capacity 2; rtcmfilter: up to three writers on
unbuffered channels.  A write is two steps (begin, end) with arbitrary stuttering in
between, so "however slow the writer is" is part of the quantifier.
-/
namespace Ntrip.C11
open Ntrip.Pipe

/-- **Returned ⇒ all written.** For every configuration whose `main` waits: every number of
    writers, every channel capacity, every message list, every timing of the producing
    pipeline, every writer latency, every schedule — in every reachable state in which `main`
    has returned, each writer has completely handled every message derived from the input. -/
theorem returned_all_written {M : Type} (c : Cfg M) (hc : c.WF) (hw : c.waits = true) {s : PS M}
    (h : Reach c s) (hr : s.mainReturned = true) (i : Nat) (hi : i < c.k) (hn : c.isNil i = false) :
    s.handled i = c.out :=
  Ntrip.Pipe.returned_all_written c hc hw h hr i hi hn

/-- The shape of displayrtcm3's `HandleMessages`: one writer, channel capacity 2, closed and awaited. -/
def displayCfg (crc : Bytes → Nat) (bs : Bytes) (produced : Nat → Bool → Nat) : Cfg Msg :=
  { nBytes := bs.length, out := segment crc (In.ofBytes bs), produced := produced, k := 1, cap := fun _ => 2,
    isNil := fun _ => false, closes := fun _ => true, waits := true }

/-- The shape of rtcmfilter's `HandleMessages`: `k ≤ 3` writers on unbuffered channels, all closed and awaited. -/
def filterCfg (crc : Bytes → Nat) (bs : Bytes) (produced : Nat → Bool → Nat) (k : Nat) : Cfg Msg :=
  { nBytes := bs.length, out := segment crc (In.ofBytes bs), produced := produced, k := k, cap := fun _ => 0,
    isNil := fun _ => false, closes := fun _ => true, waits := true }

theorem display_returned_all_written (crc bs produced) (hc : (displayCfg crc bs produced).WF) {s}
    (h : Reach (displayCfg crc bs produced) s) (hr : s.mainReturned = true) :
    s.handled 0 = segment crc (In.ofBytes bs) :=
  returned_all_written _ hc rfl h hr 0 Nat.one_pos rfl

theorem filter_returned_all_written (crc bs produced k) (hc : (filterCfg crc bs produced k).WF) {s}
    (h : Reach (filterCfg crc bs produced k) s) (hr : s.mainReturned = true) (i : Nat) (hi : i < k) :
    s.handled i = segment crc (In.ofBytes bs) :=
  returned_all_written _ hc rfl h hr i hi rfl

/-- One message, one writer on a channel of capacity 2, and a `main` that does **not** wait: the shape
    displayrtcm3's `HandleMessages` had before the repair. -/
def badCfg : Cfg Nat :=
  { nBytes := 0, out := [7], produced := fun _ b => if b then 1 else 0, k := 1, cap := fun _ => 2,
    isNil := fun _ => false, closes := fun _ => true, waits := false }

/-- The run both executions below begin with: the one message is in the writer's channel, the
    fan-out has returned and main has closed the channel (whether or not it is going to wait). -/
theorem reach_closed (w : Bool) : Reach { badCfg with waits := w } { init Nat with
    bClosed := true, fSeenClosed := true, fEmit := 1, mClosed := true, dDone := true,
    buf := upd (fun _ => []) 0 [7], chClosed := upd (fun _ => false) 0 true, mainIdx := 1 } := by
  have r0 : Reach { badCfg with waits := w } (init Nat) := .init
  have r1 := Reach.step r0 (Step.rClose _ rfl rfl rfl)
  have r2 := Reach.step r1 (Step.fSeeClosed _ rfl rfl ⟨rfl, rfl⟩)
  have r3 := Reach.step r2 (Step.fSend _ rfl Nat.one_pos rfl rfl rfl)
  have r4 := Reach.step r3 (Step.dSendBuf _ 0 7 rfl rfl Nat.one_pos rfl rfl Nat.two_pos rfl)
  have r5 := Reach.step r4 (Step.dNext _ rfl rfl)
  have r6 := Reach.step r5 (Step.fClose _ rfl rfl rfl rfl)
  have r7 := Reach.step r6 (Step.dSeeClosed _ rfl rfl rfl rfl)
  exact Reach.step r7 (Step.mainClose _ rfl rfl Nat.one_pos rfl rfl rfl)

/-- The waiting matters: the same system whose `main` does not wait has a reachable state in which `main` has
    returned while the writer has written nothing (a kernel-checked execution). -/
theorem not_waiting_loses_output : ∃ s, Reach badCfg s ∧ s.mainReturned = true ∧ s.handled 0 ≠ badCfg.out :=
  ⟨_, .step (reach_closed false) (.mainReturn _ rfl rfl rfl rfl nofun), rfl, by decide⟩

/-- The same with the wait. -/
def goodCfg : Cfg Nat := { badCfg with waits := true }

/-- When rtcmfilter's message handling has returned, all its writers have written the same
    sequence of messages (stdout, record and display cannot differ from one another). -/
theorem filter_writers_equal_at_return (crc bs produced k) (hc : (filterCfg crc bs produced k).WF) {s}
    (h : Reach (filterCfg crc bs produced k) s) (hr : s.mainReturned = true) (i j : Nat) (hi : i < k) (hj : j < k) :
    s.handled i = s.handled j := by
  rw [filter_returned_all_written crc bs produced k hc h hr i hi,
    filter_returned_all_written crc bs produced k hc h hr j hj]

/-- When displayrtcm3's message handling has returned, the raw bytes of what it has written
    account for the whole input: nothing of the file is still unwritten. -/
theorem display_returned_bytes_complete (crc bs produced) (hc : (displayCfg crc bs produced).WF) {s}
    (h : Reach (displayCfg crc bs produced) s) (hr : s.mainReturned = true) :
    ((s.handled 0).map (·.raw)).flatten = bs := by
  rw [display_returned_all_written crc bs produced hc h hr]; exact C02.segment_lossless crc bs

/-- Non-vacuity: with the wait, a reachable state in which main has returned (and the writer has
    written the message). -/
example : ∃ s, Reach goodCfg s ∧ s.mainReturned = true ∧ s.handled 0 = goodCfg.out := by
  have r9 := Reach.step (reach_closed true) (Step.wRecv _ 0 7 [] rfl Nat.one_pos rfl rfl rfl rfl)
  have r10 := Reach.step r9 (Step.wFinish _ 0 7 rfl Nat.one_pos rfl rfl)
  have r11 := Reach.step r10 (Step.wSeeClosed _ 0 rfl Nat.one_pos rfl rfl rfl rfl rfl)
  have r12 := Reach.step r11 (Step.mainReturn _ rfl rfl rfl rfl (by
    intro _ i hi _
    have : i = 0 := Nat.lt_one_iff.mp hi
    subst this; rfl))
  exact ⟨_, r12, rfl, rfl⟩

end Ntrip.C11
