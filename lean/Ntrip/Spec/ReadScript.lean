import Ntrip.Model.Reader
/-! Scripts of read results in which end-of-file and timeout results are isolated (the vocabulary of C13). -/
namespace Ntrip

def ReadRes.isByte : ReadRes → Bool
  | .byte _ => true
  | _ => false

def ReadRes.isSoftFailure : ReadRes → Bool
  | .eof => true
  | .timeout => true
  | _ => false

/-- EOF/timeout results are isolated: never two in a row, and no other error. -/
def Isolated : List ReadRes → Prop
  | [] => True
  | [r] => r ≠ .other
  | a :: b :: rest => a ≠ .other ∧ (a.isSoftFailure = true → b.isByte = true) ∧ Isolated (b :: rest)

end Ntrip
