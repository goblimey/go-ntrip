import Ntrip.Spec.Encode
import Ntrip.Model.Msm
/-! Encoding of field sequences and field-major arrays over a layout (list of `Col`), and well-formedness of
    the values against it: the vocabulary of the round-trip statements (C04, C05). -/
namespace Ntrip

/-- Fields laid out one after the other. -/
def encodeFields : List Col → List Int → List Bool
  | (_, w) :: cs, v :: vs => fieldBits w v ++ encodeFields cs vs
  | _, _ => []

/-- Values fit their fields (and the widths are ones the bit readers support). -/
def FieldsWF : List Col → List Int → Prop
  | [], [] => True
  | (s, w) :: cs, v :: vs => 1 ≤ w ∧ w ≤ 64 ∧ (s = true → 2 ≤ w) ∧ InRange s w v ∧ FieldsWF cs vs
  | _, _ => False

/-- One field-major array: the same field for each of the `n` cells. -/
def encodeColumn (w : Nat) : List Int → List Bool
  | [] => []
  | v :: vs => fieldBits w v ++ encodeColumn w vs

/-- All arrays, one after the other (`vals` is the list of columns). -/
def encodeColumns : List Col → List (List Int) → List Bool
  | (_, w) :: cs, col :: rest => encodeColumn w col ++ encodeColumns cs rest
  | _, _ => []

def ColumnWF (s : Bool) (w : Nat) (col : List Int) : Prop :=
  1 ≤ w ∧ w ≤ 64 ∧ (s = true → 2 ≤ w) ∧ ∀ v ∈ col, InRange s w v

def ColumnsWF (n : Nat) : List Col → List (List Int) → Prop
  | [], [] => True
  | (s, w) :: cs, col :: rest => col.length = n ∧ ColumnWF s w col ∧ ColumnsWF n cs rest
  | _, _ => False

end Ntrip
