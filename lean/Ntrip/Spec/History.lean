import Ntrip.Spec.Time
import Ntrip.Model.Time
/-!
Histories of MSM observations (the vocabulary of C06 and C17): what the handler reports for a history
(`runTimes`) and what it should report (`expectedTimes`).
-/
namespace Ntrip

/-- The day of the GLONASS week (0…6) at `u`. -/
def gloDay (u : Int) : Nat := ((weekPos .glonass u) / 86400000).toNat

/-- An observation event or an illegal timestamp, of either resolution (MSM4 / MSM7). -/
inductive Ev
  | obs (c : Constellation) (hi : Bool) (u : Int)
  | bad (c : Constellation) (hi : Bool) (ts : Nat)
deriving Repr

def typOf (c : Constellation) (hi : Bool) : Int :=
  match c, hi with
  | .gps, false => 1074 | .gps, true => 1077
  | .glonass, false => 1084 | .glonass, true => 1087
  | .galileo, false => 1094 | .galileo, true => 1097
  | .beidou, false => 1124 | .beidou, true => 1127

/-- The last observation time seen per constellation. -/
structure Last where
  gps : Option Int := none
  gal : Option Int := none
  glo : Option Int := none
  bei : Option Int := none

def Last.get (L : Last) : Constellation → Option Int
  | .gps => L.gps | .galileo => L.gal | .glonass => L.glo | .beidou => L.bei

def Last.set (L : Last) (c : Constellation) (u : Int) : Last :=
  match c with
  | .gps => { L with gps := some u } | .galileo => { L with gal := some u }
  | .glonass => { L with glo := some u } | .beidou => { L with bei := some u }

/-- The handler state after the observations recorded in `L` (start time `T`). -/
structure Inv (T : Int) (L : Last) (st : TState) : Prop where
  gps : st.gps = trueWeekStart .gps (L.gps.getD T)
  pGps : st.pGps = (L.gps.map (trueTs .gps)).getD 0
  gal : st.gal = trueWeekStart .galileo (L.gal.getD T)
  pGal : st.pGal = (L.gal.map (trueTs .galileo)).getD 0
  bei : st.bei = trueWeekStart .beidou (L.bei.getD T)
  pBei : st.pBei = (L.bei.map (trueTs .beidou)).getD 0
  glo : st.glo = trueWeekStart .glonass (L.glo.getD T)
  gDay : st.gDay = (L.glo.map gloDay).getD 0

/-- In the week of the start time if it is the first observation of `c`, else not earlier than the last and less
    than six days (518 400 000 ms) after it. -/
def Admissible (T : Int) (L : Last) (c : Constellation) (u : Int) : Prop :=
  match L.get c with
  | none => trueWeekStart c u = trueWeekStart c T
  | some p => p ≤ u ∧ u - p < 518400000

def evTyp : Ev → Int
  | .obs c hi _ => typOf c hi
  | .bad c hi _ => typOf c hi

def evTs : Ev → Nat
  | .obs c _ u => trueTs c u
  | .bad _ _ ts => ts

/-- The (result, start of week) pairs the handler reports for a history of MSM messages. -/
def runTimes (st : TState) : List Ev → List (TimeRes × Option Int)
  | [] => []
  | e :: rest =>
    let r := msmTime st (evTyp e) (evTs e)
    (r.1, startOfWeek r.2 (evTyp e)) :: runTimes r.2 rest

/-- Precondition of C06/C17 on a history: every observation admissible; illegal timestamps may be inserted
    anywhere. -/
def Pre (T : Int) : Last → List Ev → Prop
  | _, [] => True
  | L, .obs c _ u :: rest => Admissible T L c u ∧ Pre T (L.set c u) rest
  | L, .bad c _ ts :: rest => ¬ legalTs c ts ∧ Pre T L rest

/-- What must be reported: the true time and week start of every observation; an error for an
    illegal timestamp (the week start shown with it is the current, undisturbed one). -/
def expectedTimes (T : Int) : Last → List Ev → List (TimeRes × Option Int)
  | _, [] => []
  | L, .obs c _ u :: rest => (.ok u, some (trueWeekStart c u)) :: expectedTimes T (L.set c u) rest
  | L, .bad c _ _ :: rest =>
    (.rangeErr, some (trueWeekStart c ((L.get c).getD T))) :: expectedTimes T L rest

end Ntrip
