import Ntrip.Model.Frame
/-! List-level specification of `FetchNextMessageFrame` (`scan`) and of `HandleMessages` (`segmentS`), with the facts
    about `scan` on which the termination of `segmentS` rests. -/
namespace Ntrip
/-- List-level specification of one `FetchNextMessageFrame` (no channel, no push-back). -/
inductive Scan
  | done
  | junk (raw rest : Bytes)
  | frame (f rest : Bytes)
deriving DecidableEq, Repr

def scan (st : Bytes) : Scan :=
  match st with
  | [] => .done
  | b :: r =>
    if b ≠ 0xD3 then
      let j := st.takeWhile (· != 0xD3)
      .junk j (st.dropWhile (· != 0xD3))
    else if r.length < 4 then .junk st []
    else
      let hdr := st.take 5
      let lt := lengthAndType hdr
      if lt.2.2 ≠ .none then .junk hdr (st.drop 5)
      else if st.length < lt.1 + 6 then .junk st []
      else .frame (st.take (lt.1 + 6)) (st.drop (lt.1 + 6))

theorem scan_spec {st : Bytes} {r : Scan} (h : scan st = r) :
    match (generalizing := false) r with
    | .done => st = []
    | .junk raw rest => raw ++ rest = st ∧ raw ≠ []
    | .frame f rest => f ++ rest = st ∧
        ∃ len t, lengthAndType (st.take 5) = (len, t, .none) ∧ f.length = len + 6 := by
  subst h
  fun_cases scan st with
  | case1 => rfl
  | case2 b r hb => simp [hb]
  | case3 b r hb h4 => simp
  | case4 b r hb h4 hdr lt he => rw [if_pos he]; exact ⟨List.take_append_drop .., by simp⟩
  | case5 b r hb h4 hdr lt he hl => rw [if_neg he, if_pos hl]; simp
  | case6 b r hb h4 hdr lt he hl =>
    rw [if_neg he, if_neg hl]
    simp only [lt, hdr, Decidable.not_not, Nat.not_lt] at he hl
    exact ⟨List.take_append_drop .., lt.1, lt.2.1, Prod.ext rfl (Prod.ext rfl he), List.length_take_of_le hl⟩

theorem scan_rest_lt {st : Bytes} :
    (∀ raw rest, scan st = .junk raw rest → rest.length < st.length) ∧
    (∀ f rest, scan st = .frame f rest → rest.length < st.length) := by
  constructor
  · intro raw rest h
    obtain ⟨h1, h2⟩ := scan_spec h
    have := List.length_pos_iff.mpr h2
    rw [← h1, List.length_append]; omega
  · intro f rest h
    obtain ⟨h1, _, _, _, h2⟩ := scan_spec h
    rw [← h1, List.length_append]; omega

/-- List-level `HandleMessages`. -/
def segmentS (crc : Bytes → Nat) (st : Bytes) : List Msg :=
  match h : scan st with
  | .done => []
  | .junk raw rest => nonRTCM raw :: segmentS crc rest
  | .frame f rest => msgOfFrame crc f :: segmentS crc rest
termination_by st.length
decreasing_by
  · exact scan_rest_lt.1 _ _ h
  · exact scan_rest_lt.2 _ _ h

theorem segmentS_nil (crc : Bytes → Nat) : segmentS crc [] = [] := by
  rw [segmentS]; split <;> simp_all [scan]

theorem segmentS_junk (crc : Bytes → Nat) {st raw rest : Bytes} (h : scan st = .junk raw rest) :
    segmentS crc st = nonRTCM raw :: segmentS crc rest := by
  rw [segmentS]; split <;> simp_all

theorem segmentS_frame (crc : Bytes → Nat) {st f rest : Bytes} (h : scan st = .frame f rest) :
    segmentS crc st = msgOfFrame crc f :: segmentS crc rest := by
  rw [segmentS]; split <;> simp_all
end Ntrip
