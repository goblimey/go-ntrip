import Ntrip.Spec.Layout
/-!
The encoder side of C04: an abstract MSM message, its well-formedness, its encoding as the
standard lays it out, and what a correct decoder must return for it (`view`).
-/
namespace Ntrip

/-- The fixed part of the MSM header in the standard: type(12) station(12) timestamp(30)
    multiple(1) IODS(3) session time(7) clock steering(2) external clock(2) smoothing(1)
    smoothing interval(3) satellite mask(64) signal mask(32) — 169 bits. -/
def hdrStd : List Col :=
  [(false, 12), (false, 12), (false, 30), (false, 1), (false, 3), (false, 7), (false, 2), (false, 2),
   (false, 1), (false, 3), (false, 64), (false, 32)]

/-- Satellite data of the standard: MSM4 8+10 = 18 bits, MSM7 8+4+10+14 = 36 bits per satellite. -/
def satStd : MsmKind → List Col
  | .msm4 => [(false, 8), (false, 10)]
  | .msm7 => [(false, 8), (false, 4), (false, 10), (true, 14)]

/-- Signal data of the standard: MSM4 15+22+4+1+6 = 48 bits, MSM7 20+24+10+1+10+15 = 80 bits per cell. -/
def sigStd : MsmKind → List Col
  | .msm4 => [(true, 15), (true, 22), (false, 4), (false, 1), (false, 6)]
  | .msm7 => [(true, 20), (true, 24), (false, 10), (false, 1), (false, 10), (true, 15)]

/-- An abstract MSM message: the twelve fixed header values (in `hdrStd` order), the cell
    mask, the satellite data and the signal data, both field-major (one list per field). -/
structure MsmSpec where
  hvals : List Int
  cellMask : Nat
  satCols : List (List Int)
  sigCols : List (List Int)

namespace MsmSpec
def typ (m : MsmSpec) : Int := m.hvals.getD 0 0
def sats (m : MsmSpec) : List Nat := idsOfMask 64 (m.hvals.getD 10 0).toNat
def sigs (m : MsmSpec) : List Nat := idsOfMask 32 (m.hvals.getD 11 0).toNat
def nsat (m : MsmSpec) : Nat := m.sats.length
def nsig (m : MsmSpec) : Nat := m.sigs.length
def cells (m : MsmSpec) : List (List Bool) := cellsOfMask m.cellMask m.nsat m.nsig
def ncells (m : MsmSpec) : Nat := countCells m.cells
def multiple (m : MsmSpec) : Bool := (m.hvals.getD 3 0).toNat == 1
end MsmSpec

/-- Well-formed message of family `k`. -/
structure MsmWF (k : MsmKind) (m : MsmSpec) : Prop where
  hdr : FieldsWF hdrStd m.hvals
  family : k.accepts m.typ = true
  cellsFit : m.nsat * m.nsig ≤ 64
  cellMaskLt : m.cellMask < 2 ^ (m.nsat * m.nsig)
  sats : ColumnsWF m.nsat (satStd k) m.satCols
  sigs : ColumnsWF m.ncells (sigStd k) m.sigCols
  /-- a message that carries no signal cell is considered only with the multiple flag clear -/
  multi : m.multiple = true → 1 ≤ m.ncells

/-- The message bits in transmission order. -/
def msmBits (k : MsmKind) (m : MsmSpec) : List Bool :=
  encodeFields hdrStd m.hvals ++ (natBits (m.nsat * m.nsig) m.cellMask ++
    (encodeColumns (satStd k) m.satCols ++ encodeColumns (sigStd k) m.sigCols))

/-- The frame: any 3-byte leader, the message bits packed (zero bits to the byte boundary),
    `pad` zero bytes, any 3 CRC bytes. -/
def msmFrame (leader : Bytes) (k : MsmKind) (m : MsmSpec) (pad : Nat) (crc : Bytes) : Bytes :=
  leader ++ (packBits (msmBits k m) ++ (List.replicate pad 0 ++ crc))

/-- What a correct decoder returns: the header (with the lists implied by the masks), one row
    per satellite, and every signal cell attached to its satellite and signal id in cell-mask
    order. -/
def msmView (m : MsmSpec) : MsmMsg :=
  { hdr := mkHeader m.hvals m.cellMask,
    sats := transpose m.satCols m.nsat,
    sigs := attach m.sats m.sigs m.sigCols m.ncells m.cells 0 0 }

end Ntrip
