import Ntrip.Spec.Frame
/-! Streams described by segment lists (the vocabulary of C03, C10, C12). -/
namespace Ntrip

/-- The byte stream of a segment list, followed by `tail`. -/
def streamOf (segs : List Seg) (tail : Bytes) : Bytes := (segs.map Seg.bytes).flatten ++ tail

/-- Merge adjacent runs of other data. -/
def normalise : List Seg → List Seg
  | [] => []
  | [s] => [s]
  | a :: b :: rest =>
    match a, b with
    | .junk x, .junk y => normalise (.junk (x ++ y) :: rest)
    | _, _ => a :: normalise (b :: rest)
termination_by l => l.length

end Ntrip
