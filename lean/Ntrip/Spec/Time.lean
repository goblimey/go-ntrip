/-!
True observation times (the specification side of C06 / C17).  Instants are Unix ms.
1970-01-04 00:00 UTC (day 3) was a Sunday.
-/
namespace Ntrip

inductive Constellation | gps | galileo | glonass | beidou
deriving DecidableEq, Repr

/-- Start of "week 0" of each constellation: Sunday 1970-01-04 00:00 UTC shifted by the
    constellation's offset — GPS/Galileo 18 s and BeiDou 4 s earlier, GLONASS 3 h earlier
    (Moscow time, UTC+3; Saturday 21:00 UTC). -/
def weekBase : Constellation → Int
  | .gps => 3 * 86400000 - 18000
  | .galileo => 3 * 86400000 - 18000
  | .beidou => 3 * 86400000 - 4000
  | .glonass => 3 * 86400000 - 10800000

/-- Milliseconds since the start of the constellation week containing `u`. -/
def weekPos (c : Constellation) (u : Int) : Int := (u - weekBase c) % 604800000

/-- The true start (UTC) of the constellation week containing `u`. -/
def trueWeekStart (c : Constellation) (u : Int) : Int := u - weekPos c u

/-- The 30-bit timestamp a receiver puts into an MSM observed at `u`. -/
def trueTs (c : Constellation) (u : Int) : Nat :=
  match c with
  | .glonass => ((weekPos c u) / 86400000).toNat * 2^27 + ((weekPos c u) % 86400000).toNat
  | _ => (weekPos c u).toNat

/-- The MSM message types of a constellation (MSM4 / MSM7). -/
def typesOf : Constellation → List Int
  | .gps => [1074, 1077]
  | .glonass => [1084, 1087]
  | .galileo => [1094, 1097]
  | .beidou => [1124, 1127]

/-- Legal timestamps: less than 7 days of ms; GLONASS day 0…6 and less than 24 h of ms. -/
def legalTs (c : Constellation) (ts : Nat) : Prop :=
  match c with
  | .glonass => ts / 2^27 ≤ 6 ∧ ts % 2^27 < 86400000
  | _ => ts < 604800000

end Ntrip
