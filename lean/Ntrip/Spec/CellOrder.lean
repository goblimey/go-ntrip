import Ntrip.Model.Msm
/-! The order in which the decoded signal cells must come: the set bits of the cell mask in row-major
    order, numbered (the vocabulary of `C04.view_cells_rowmajor`). -/
namespace Ntrip

/-- Positions (signal index) of the set bits of one cell-mask row, from column `j`. -/
def rowPositions : List Bool → Nat → List Nat
  | [], _ => []
  | b :: rest, j => if b then j :: rowPositions rest (j + 1) else rowPositions rest (j + 1)

/-- Row-major positions (satellite index, signal index) of the set bits of the cell mask. -/
def cellPositions : List (List Bool) → Nat → List (Nat × Nat)
  | [], _ => []
  | row :: rest, i => (rowPositions row 0).map (fun j => (i, j)) ++ cellPositions rest (i + 1)

/-- Number a list from `c`: core's `List.zipIdx`, spelled out for the statement of `C04.view_cells_rowmajor`. -/
def numberFrom {α : Type} : List α → Nat → List (α × Nat)
  | [], _ => []
  | a :: rest, c => (a, c) :: numberFrom rest (c + 1)

/-- The signal cell at satellite index `i`, signal index `j`, with the `c`-th entry of every signal array. -/
def mkCell (sats sigs : List Nat) (rows : List (List Int)) (i j c : Nat) : SigCell :=
  { satIdx := i, sigIdx := j, cellIdx := c, satId := sats.getD i 0, sigId := sigs.getD j 0, vals := rowOf rows c }

end Ntrip
