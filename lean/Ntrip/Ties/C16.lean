import Ntrip.Properties.C16
import Ntrip.Generated.Consts
import Ntrip.Generated.Layouts
import Ntrip.Generated.Skeletons
import Ntrip.Generated.Tables
import Ntrip.Guards.Apps_logger
/-! T1 obligations of C16: the source still has the shape the model assumes.  Obligations of C16 only; a statement
    given as `type_of% Ntrip.Guards.x` is written out in `Guards/`. -/
namespace Ntrip.C16
open Ntrip.Pipe

/-- The skeleton of `start`, `readAndWrite`, `recorder`. -/
theorem tie_skeletons :
    Gen.skeleton_logger_start = some ["makechan cap=0", "makechan cap=0", "go func{", "defer close recorderDone", "}",
      "close recorderChannel", "recv recorderDone"] ∧
    Gen.skeleton_logger_readAndWrite = some ["for", "send recorderChannel"] ∧
    Gen.skeleton_logger_recorder = some ["return", "return", "for", "recv recorderChannel"] ∧
    Gen.logger_bufferLength = 8096 := by
  repeat' constructor
  all_goals decide

/-- What `readAndWrite` hands over — stdout gets the block just read; the recorder gets a
    freshly made slice filled by `copy` (a private copy: the model's hand-over is by value, so the
    read buffer must not be shared with the recorder goroutine). -/
theorem tie_handover :
    Gen.sent_logger_readAndWrite = some ["os.Stdout.Write(readBuffer[:n])",
      "recorderChannel <- copyBuffer ; copyBuffer := make() ; copy(copyBuffer, readBuffer[:n])"] := rfl

/-- The conditions and loops of `start`, `readAndWrite`, `recorder`, `writeRTCMLog`. -/
theorem tie_guards_logger : type_of% Ntrip.Guards.logger := Ntrip.Guards.logger

end Ntrip.C16
