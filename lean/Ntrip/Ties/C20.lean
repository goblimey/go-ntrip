import Ntrip.Properties.C20
import Ntrip.Guards.FramingReads
/-! T1 obligation of C20: the type the handler classifies is the unsigned 12-bit field at bit 24 of the frame. -/
namespace Ntrip.C20

/-- The bit fields the framing code reads, their widths and signedness. -/
theorem tie_framing_reads : type_of% Ntrip.Guards.framing_reads := Ntrip.Guards.framing_reads

end Ntrip.C20
