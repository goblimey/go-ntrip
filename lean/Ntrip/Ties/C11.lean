import Ntrip.Properties.C11
import Ntrip.Guards.Apps_reader
import Ntrip.Guards.Apps_fanout
import Ntrip.Generated.Consts
import Ntrip.Generated.Layouts
import Ntrip.Generated.Skeletons
import Ntrip.Generated.Tables
import Ntrip.Guards.Apps_filter
import Ntrip.Guards.Apps_display
/-! T1 obligations of C11: the source still has the shape the model assumes.  Obligations of C11 only; a statement
    given as `type_of% Ntrip.Guards.x` is written out in `Guards/`. -/
namespace Ntrip.C11
open Ntrip.Pipe

/-- Both applications close every writer channel and wait for the writers before
    returning (displayrtcm3: `close messageChan` then `<-displayDone`, the writer closing
    `displayDone` on exit; rtcmfilter: a `sync.WaitGroup` — `Add` before each `go`, `Done`
    deferred in each writer, `close` of every channel, `Wait`). -/
theorem tie_skeletons :
    Gen.skeleton_display_HandleMessages = some ["makechan cap=2", "makechan cap=0", "go func{",
      "defer close displayDone", "}", "close messageChan", "recv displayDone"] ∧
    Gen.skeleton_display_DisplayMessages = some ["for", "recv messageChan", "return", "return"] ∧
    Gen.skeleton_filter_HandleMessages = some ["makechan cap=0", "sync writers.Add", "go func{", "defer sync writers.Done", "}",
      "makechan cap=0", "sync writers.Add", "go func{", "defer sync writers.Done", "}",
      "makechan cap=0", "sync writers.Add", "go func{", "defer sync writers.Done", "}",
      "range channels", "close channels[i]", "sync writers.Wait"] ∧
    Gen.skeleton_filter_writeRTCMMessages = some ["for", "recv ch", "return", "return", "return"] ∧
    Gen.skeleton_filter_writeReadableMessages = some ["for", "recv ch", "return"] := by
  repeat' constructor
  all_goals decide

/-- The guards of rtcmfilter. -/
theorem tie_guards_filter : type_of% Ntrip.Guards.filter := Ntrip.Guards.filter

/-- The guards of displayrtcm3. -/
theorem tie_guards_display : type_of% Ntrip.Guards.display := Ntrip.Guards.display

/-- The read loop the application's input goes through (`file_handler.Handle`): its conditions and loops are those
    of the reader model. -/
theorem tie_guards_reader : type_of% Ntrip.Guards.reader := Ntrip.Guards.reader

/-- The guards of the fan-out (`appcore.HandleMessagesUntilEOF`) between the reader and the writers. -/
theorem tie_guards_fanout : type_of% Ntrip.Guards.fanout := Ntrip.Guards.fanout

/-- What `Handle` hands over — single bytes by value, from the read loop itself. -/
theorem tie_reader_handover :
    Gen.sent_fh_Handler_Handle = some ["go handler.RTCMHandler.HandleMessages()", "byteChan <- buf[0]"] := rfl

end Ntrip.C11
