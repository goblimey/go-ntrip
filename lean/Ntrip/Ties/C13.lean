import Ntrip.Guards.Apps_tolerance
import Ntrip.Properties.C13
import Ntrip.Generated.Consts
import Ntrip.Generated.Layouts
import Ntrip.Generated.Skeletons
import Ntrip.Generated.Tables
import Ntrip.Guards.Apps_reader
/-! T1 obligations of C13: the source still has the shape the model assumes.  Obligations of C13 only; a statement
    given as `type_of% Ntrip.Guards.x` is written out in `Guards/`. -/
namespace Ntrip.C13

/-- The skeleton of `Handle` (unbuffered byte channel, closed on every return path by
    `defer`, the framing goroutine started before the loop). -/
theorem tie_skeleton :
    Gen.skeleton_fh_Handler_Handle = some ["makechan cap=0", "defer close byteChan",
      "go handler.RTCMHandler.HandleMessages", "for", "return", "return", "return", "send byteChan"] ∧
    Gen.skeleton_handler_Handler_HandleMessages = some ["for", "close ch_out", "return", "send ch_out"] := ⟨rfl, rfl⟩

/-- What `Handle` hands over — single bytes by value, from the read loop itself (one
    byte per `Read`, so a read result is either a byte or an error, as in the model's `ReadRes`). -/
theorem tie_handover :
    Gen.sent_fh_Handler_Handle = some ["go handler.RTCMHandler.HandleMessages()", "byteChan <- buf[0]"] := rfl

/-- The conditions and loops of `Handle` (which results stop it, which are tolerated, when a byte is forwarded). -/
theorem tie_guards_reader : type_of% Ntrip.Guards.reader := Ntrip.Guards.reader

/-- The tolerance and the retry pause are read from their own configuration fields. -/
theorem tie_tolerance_accessors : type_of% Ntrip.Guards.tolerance_accessors := Ntrip.Guards.tolerance_accessors

end Ntrip.C13
