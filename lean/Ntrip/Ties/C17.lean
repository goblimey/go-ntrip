import Ntrip.Guards.TimeConsts
import Ntrip.Properties.C17
import Ntrip.Generated.Consts
import Ntrip.Generated.Layouts
import Ntrip.Generated.Skeletons
import Ntrip.Generated.Tables
import Ntrip.Guards.Time
/-! T1 obligations of C17: the source still has the shape the model assumes.  Obligations of C17 only; a statement
    given as `type_of% Ntrip.Guards.x` is written out in `Guards/`. -/
namespace Ntrip.C17

/-- `New` starts the stored timestamps at the beginning of the week: this is what
    makes a first observation earlier than `T` harmless. -/
theorem tie_new_prev_zero :
    Gen.handler_New_timestampFromPreviousGPSMessage = "zero" ∧
    Gen.handler_New_timestampFromPreviousGalileoMessage = "sameAsGPS" ∧
    Gen.handler_New_timestampFromPreviousBeidouMessage = "zero" := by decide

/-- Guards and loop headers of the modelled code, regenerated from the source. -/
theorem tie_guards_time : type_of% Ntrip.Guards.time := Ntrip.Guards.time

/-- The literals of the time model are the constants of the source. -/
theorem tie_time_consts : type_of% Ntrip.Guards.time_consts := Ntrip.Guards.time_consts

end Ntrip.C17
