import Ntrip.Properties.C04
import Ntrip.Generated.Consts
import Ntrip.Generated.Layouts
import Ntrip.Generated.Skeletons
import Ntrip.Generated.Tables
import Ntrip.Guards.Msm
/-! T1 obligations of C04: the source still has the shape the model assumes.  Obligations of C04 only; a statement
    given as `type_of% Ntrip.Guards.x` is written out in `Guards/`. -/
namespace Ntrip.C04

/-- The layouts extracted from the current source are the standard's. -/
theorem tie_layouts :
    hdrCols = some hdrStd ∧
    MsmKind.msm4.satCols = some (satStd .msm4) ∧ MsmKind.msm7.satCols = some (satStd .msm7) ∧
    MsmKind.msm4.sigCols = some (sigStd .msm4) ∧ MsmKind.msm7.sigCols = some (sigStd .msm7) ∧
    widthOf hdrStd = 169 ∧ widthOf (satStd .msm4) = 18 ∧ widthOf (satStd .msm7) = 36 ∧
    widthOf (sigStd .msm4) = 48 ∧ widthOf (sigStd .msm7) = 80 := by
  repeat' constructor
  all_goals decide

/-- The cell count (the stride of the field-major signal arrays) comes from the
    header's cell mask, and the constants of the guards. -/
theorem tie_stride :
    Gen.sig4_numSignalCells_source = "header.NumSignalCells" ∧
    Gen.sig7_numSignalCells_source = "header.NumSignalCells" ∧
    Gen.sat4_CellLengthInBits = 18 ∧ Gen.sat7_CellLengthInBits = 36 ∧
    Gen.sig4_GetSignalCells_bitsPerCell = 48 ∧ Gen.sig7_bitsPerCell = 80 ∧
    Gen.header_minBitsInHeader = 169 ∧ Gen.header_maxLengthOfCellMask = 64 := by decide

/-- Guards and loop headers of the modelled code, regenerated from the source. -/
theorem tie_guards_msm : type_of% Ntrip.Guards.msm := Ntrip.Guards.msm

end Ntrip.C04
