import Ntrip.Properties.C18
import Ntrip.Generated.Consts
import Ntrip.Generated.Layouts
import Ntrip.Generated.Skeletons
import Ntrip.Generated.Tables
import Ntrip.Guards.Queue
import Ntrip.Guards.Writes_queue_writers
/-! T1 obligations of C18: the source still has the shape the model assumes.  Obligations of C18 only; a statement
    given as `type_of% Ntrip.Guards.x` is written out in `Guards/`. -/
namespace Ntrip.C18

/-- `Add` = `Lock; defer Unlock; …`, `GetMessages` = `RLock; defer RUnlock; …`, and
    only `Add`, `GetMessages` and their helper touch `Items` / `NextIndex`. -/
theorem tie_locking :
    Gen.skeleton_cq_CircularQueue_Add = some ["sync cb.Lock", "defer sync cb.Unlock", "range keys"] ∧
    Gen.skeleton_cq_CircularQueue_GetMessages = some ["sync cb.RLock", "defer sync cb.RUnlock", "range keys", "return"] ∧
    Gen.skeleton_cq_CircularQueue_getKeysInAscendingOrder = some ["range cb.Items", "return"] ∧
    Gen.cq_state_users = ["CircularQueue.Add", "CircularQueue.GetMessages", "CircularQueue.getKeysInAscendingOrder"] := by
  repeat' constructor
  all_goals decide

/-- Guards and loop headers of `Add` / `GetMessages`. -/
theorem tie_guards : type_of% Ntrip.Guards.queue := Ntrip.Guards.queue

/-- Receiver writes: `Add` is the only method that writes the queue (`delete`, the map assignment, the index increment); `GetMessages` and the key helper write nothing shared. -/
theorem tie_writes_queue_writers : type_of% Ntrip.Guards.queue_writers := Ntrip.Guards.queue_writers

end Ntrip.C18
