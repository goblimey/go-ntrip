import Ntrip.Properties.C14
import Ntrip.Generated.Consts
import Ntrip.Generated.Layouts
import Ntrip.Generated.Skeletons
import Ntrip.Generated.Tables
import Ntrip.Guards.Bits
/-! T1 obligations of C14: the source still has the shape the model assumes.  Obligations of C14 only; a statement
    given as `type_of% Ntrip.Guards.x` is written out in `Guards/`. -/
namespace Ntrip.C14

/-- Guards and loop headers of the modelled code, regenerated from the source. -/
theorem tie_guards_bits : type_of% Ntrip.Guards.bits := Ntrip.Guards.bits

end Ntrip.C14
