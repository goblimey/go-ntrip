import Ntrip.Guards.FramingReads
import Ntrip.Guards.TimeConsts
import Ntrip.Properties.C06
import Ntrip.Generated.Consts
import Ntrip.Generated.Layouts
import Ntrip.Generated.Skeletons
import Ntrip.Generated.Tables
import Ntrip.Guards.Time
/-! T1 obligations of C06: the source still has the shape the model assumes.  Obligations of C06 only; a statement
    given as `type_of% Ntrip.Guards.x` is written out in `Guards/`. -/
namespace Ntrip.C06

/-- The state updates survive: every method on the path has a pointer receiver. -/
theorem tie_receivers :
    Gen.handler_getTimeDisplayFromTimestamp_ptrRecv = some true ∧
    Gen.handler_getTimeFromTimeStamp_ptrRecv = true ∧
    Gen.handler_getUTCFromGPSTime_ptrRecv = some true ∧
    Gen.handler_getUTCFromGalileoTime_ptrRecv = some true ∧
    Gen.handler_getUTCFromBeidouTime_ptrRecv = some true ∧
    Gen.handler_getUTCFromGlonassTime_ptrRecv = some true ∧
    Gen.handler_GetMessage_ptrRecv = some true := by decide

/-- Each week-based conversion reads and writes its own constellation's fields. -/
theorem tie_fields :
    Gen.handler_getUTCFromGPSTime_args = ["timestamp", "timestampFromPreviousGPSMessage", "startOfGPSWeek"] ∧
    Gen.handler_getUTCFromGPSTime_writes = ["startOfGPSWeek=newStartOfWeek", "timestampFromPreviousGPSMessage=timestamp"] ∧
    Gen.handler_getUTCFromGalileoTime_args = ["timestamp", "timestampFromPreviousGalileoMessage", "startOfGalileoWeek"] ∧
    Gen.handler_getUTCFromGalileoTime_writes = ["startOfGalileoWeek=newStartOfWeek", "timestampFromPreviousGalileoMessage=timestamp"] ∧
    Gen.handler_getUTCFromBeidouTime_args = ["timestamp", "timestampFromPreviousBeidouMessage", "startOfBeidouWeek"] ∧
    Gen.handler_getUTCFromBeidouTime_writes = ["startOfBeidouWeek=newStartOfWeek", "timestampFromPreviousBeidouMessage=timestamp"] := ⟨rfl, rfl, rfl, rfl, rfl, rfl⟩

/-- Constants the model takes from the source. -/
theorem tie_constants :
    Gen.utils_MaxTimestamp = 604799999 ∧ Gen.utils_MaxTimestampGlonass = 891706367 ∧
    Gen.utils_MillisIn24Hours = 86400000 ∧ Gen.utils_GlonassDayBitMask = 0x38000000 ∧
    Gen.utils_GPSLeapSeconds = -18 ∧ Gen.utils_BeidouLeapSeconds = -4 ∧
    Gen.utils_GPSTimeOffset = -18000000000 ∧ Gen.utils_BeidouTimeOffset = -4000000000 ∧
    Gen.utils_GlonassTimeOffset = -10800000000000 ∧
    Gen.handler_Handler_GetMessage_timestampPosition = 48 ∧ Gen.header_LenTimeStamp = 30 := by decide

/-- Guards and loop headers of the modelled code, regenerated from the source. -/
theorem tie_guards_time : type_of% Ntrip.Guards.time := Ntrip.Guards.time

/-- The literals of the time model are the constants of the source. -/
theorem tie_time_consts : type_of% Ntrip.Guards.time_consts := Ntrip.Guards.time_consts

/-- The bit fields the framing code reads, their widths and signedness. -/
theorem tie_framing_reads : type_of% Ntrip.Guards.framing_reads := Ntrip.Guards.framing_reads

end Ntrip.C06
