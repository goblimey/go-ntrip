import Ntrip.Properties.C08
import Ntrip.Generated.Consts
import Ntrip.Generated.Layouts
import Ntrip.Generated.Skeletons
import Ntrip.Generated.Tables
import Ntrip.Guards.Range
/-! T1 obligations of C08: the source still has the shape the model assumes.  Obligations of C08 only; a statement
    given as `type_of% Ntrip.Guards.x` is written out in `Guards/`. -/
namespace Ntrip.C08

/-- Markers and scale constants. -/
theorem tie_constants :
    Gen.utils_InvalidRange = 255 ∧ Gen.utils_InvalidRangeDelta = -16384 ∧ Gen.utils_InvalidPhaseRangeDelta = -2097152 ∧
    Gen.sig7_InvalidRangeDelta = -524288 ∧ Gen.sig7_InvalidPhaseRangeDelta = -8388608 ∧
    Gen.sig7_InvalidPhaseRangeRate = -8192 ∧ Gen.sig7_InvalidPhaseRangeRateDelta = -16384 ∧
    Gen.sat7_InvalidPhaseRangeRate = -8192 ∧
    Gen.utils_TwoToThePower29 = 2^29 ∧ Gen.utils_TwoToThePower31 = 2^31 ∧ Gen.utils_TwoToThePower24 = 2^24 ∧
    Gen.utils_TwoToThePower10 = 2^10 ∧ Gen.utils_GetPhaseRangeMilliseconds_scaleFactor = 2^31 ∧
    Gen.sig4_Cell_RangeInMillis_scaleFactor = 2^29 := by decide

/-- Guards and loop headers of the modelled code, regenerated from the source. -/
theorem tie_guards_range : type_of% Ntrip.Guards.range := Ntrip.Guards.range

end Ntrip.C08
