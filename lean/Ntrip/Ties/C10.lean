import Ntrip.Guards.FramingConsts
import Ntrip.Guards.Framing
import Ntrip.Properties.C10
import Ntrip.Guards.Apps_reader
import Ntrip.Guards.Apps_fanout
import Ntrip.Generated.Consts
import Ntrip.Generated.Layouts
import Ntrip.Generated.Skeletons
import Ntrip.Generated.Tables
import Ntrip.Guards.Apps_filter
/-! T1 obligations of C10: the source still has the shape the model assumes.  Obligations of C10 only; a statement
    given as `type_of% Ntrip.Guards.x` is written out in `Guards/`. -/
namespace Ntrip.C10
open Ntrip.Pipe

/-- The only thing `writeRTCMMessages` writes is the raw data of a message. -/
theorem tie_handover :
    Gen.sent_filter_writeRTCMMessages = some ["writer.Write(message.RawData)"] := rfl

/-- The conditions of rtcmfilter: which messages `writeRTCMMessages` skips, which consumers `HandleMessages` starts. -/
theorem tie_guards_filter : type_of% Ntrip.Guards.filter := Ntrip.Guards.filter

/-- The guards and loop headers of the framing code this property builds on. -/
theorem tie_framing : type_of% Ntrip.Guards.framing := Ntrip.Guards.framing

/-- The literals of the framing model are the constants of the source. -/
theorem tie_framing_consts : type_of% Ntrip.Guards.framing_consts := Ntrip.Guards.framing_consts

/-- The read loop the application's input goes through (`file_handler.Handle`): its conditions and loops are those
    of the reader model. -/
theorem tie_guards_reader : type_of% Ntrip.Guards.reader := Ntrip.Guards.reader

/-- The guards of the fan-out (`appcore.HandleMessagesUntilEOF`) between the reader and the writers. -/
theorem tie_guards_fanout : type_of% Ntrip.Guards.fanout := Ntrip.Guards.fanout

/-- What `Handle` hands over — single bytes by value, from the read loop itself. -/
theorem tie_reader_handover :
    Gen.sent_fh_Handler_Handle = some ["go handler.RTCMHandler.HandleMessages()", "byteChan <- buf[0]"] := rfl

end Ntrip.C10
