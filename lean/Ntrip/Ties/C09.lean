import Ntrip.Guards.FramingConsts
import Ntrip.Guards.Framing
import Ntrip.Guards.Apps_tolerance
import Ntrip.Properties.C09
import Ntrip.Generated.Consts
import Ntrip.Generated.Layouts
import Ntrip.Generated.Skeletons
import Ntrip.Generated.Tables
import Ntrip.Guards.Apps_reader
import Ntrip.Guards.Apps_fanout
/-! T1 obligations of C09: the source still has the shape the model assumes.  Obligations of C09 only; a statement
    given as `type_of% Ntrip.Guards.x` is written out in `Guards/`. -/
namespace Ntrip.C09
open Ntrip.Pipe

/-- The goroutine/channel skeletons the transition system was written for. -/
theorem tie_skeletons :
    Gen.skeleton_fh_Handler_Handle = some ["makechan cap=0", "defer close byteChan",
      "go handler.RTCMHandler.HandleMessages", "for", "return", "return", "return", "send byteChan"] ∧
    Gen.skeleton_handler_Handler_HandleMessages = some ["for", "close ch_out", "return", "send ch_out"] ∧
    Gen.skeleton_pushback_ByteChannel_get = some ["return", "recv bc.byteChan", "return", "return"] ∧
    Gen.skeleton_appcore_AppCore_HandleMessagesUntilEOF = some ["makechan cap=0", "go fh.Handle", "for",
      "recv messageChan", "return", "range appCore.Channels", "send appCore.Channels[i]", "return"] := by
  repeat' constructor
  all_goals decide

/-- What `Handle` hands over — single bytes by value, from the read loop itself. -/
theorem tie_handover :
    Gen.sent_fh_Handler_Handle = some ["go handler.RTCMHandler.HandleMessages()", "byteChan <- buf[0]"] := rfl

/-- The conditions and loops of `Handle`. -/
theorem tie_guards_reader : type_of% Ntrip.Guards.reader := Ntrip.Guards.reader

/-- The conditions and loops of `HandleMessagesUntilEOF`. -/
theorem tie_guards_fanout : type_of% Ntrip.Guards.fanout := Ntrip.Guards.fanout

/-- The tolerance and the retry pause are read from their own configuration fields. -/
theorem tie_tolerance_accessors : type_of% Ntrip.Guards.tolerance_accessors := Ntrip.Guards.tolerance_accessors

/-- The guards and loop headers of the framing code this property builds on. -/
theorem tie_framing : type_of% Ntrip.Guards.framing := Ntrip.Guards.framing

/-- The literals of the framing model are the constants of the source. -/
theorem tie_framing_consts : type_of% Ntrip.Guards.framing_consts := Ntrip.Guards.framing_consts

end Ntrip.C09
