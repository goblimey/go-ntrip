import Ntrip.Guards.FramingConsts
import Ntrip.Guards.Framing
import Ntrip.Properties.C19
import Ntrip.Generated.Consts
import Ntrip.Generated.Layouts
import Ntrip.Generated.Skeletons
import Ntrip.Generated.Tables
import Ntrip.Guards.Apps_proxy
/-! T1 obligations of C19: the source still has the shape the model assumes.  Obligations of C19 only; a statement
    given as `type_of% Ntrip.Guards.x` is written out in `Guards/`. -/
namespace Ntrip.C19
open Ntrip.Pipe

/-- The five holes of `Status` in template order, how each is produced (the hex dumps
    and every message text go through `Sanitise`), what `Sanitise` replaces, and the template's
    own markup count. -/
theorem tie_report :
    Gen.rf_Status_holes = ["clientLeader", "clientHexDump", "serverLeader", "serverHexDump", "messageDisplay"] ∧
    Gen.rf_Status_assigns = [("clientHexDump", [":= ", "= Sanitise()"]), ("clientLeader", [":= no input buffer", "= fmt.Sprintf()"]),
      ("messageDisplay", [":= \nMessages\n\n", "+= Sanitise()+\n"]), ("reportBody", [":= fmt.Sprintf()"]),
      ("serverHexDump", [":= ", "= Sanitise()"]), ("serverLeader", [":= no output buffer", "= fmt.Sprintf()"])] ∧
    Gen.rf_Sanitise_replacements = ["<=>&lt; n=-1", ">=>&gt; n=-1"] ∧
    Gen.rf_reportFormat_holes = 5 ∧ Gen.rf_reportFormat_lt = 24 ∧ Gen.rf_reportFormat_gt = 24 := by
  repeat' constructor
  all_goals decide

/-- The goroutines and channels of the proxy's parser leg and relay loops. -/
theorem tie_skeletons :
    Gen.skeleton_proxy_start = some ["makechan cap=0", "defer close byteChan", "makechan cap=0", "defer close messageChan",
      "go rtcmHandler.HandleMessages", "go keepCircularQueueUpdated"] ∧
    Gen.skeleton_proxy_handleMessages = some ["go handleServerMessages"] ∧
    Gen.skeleton_proxy_handleClientMessages = some ["for", "for", "send byteChan", "return"] ∧
    Gen.skeleton_proxy_handleServerMessages = some ["for"] ∧
    Gen.skeleton_proxy_keepCircularQueueUpdated = some ["for", "recv messageChan"] ∧
    Gen.skeleton_rf_ReportFeed_Status = some ["sync rf.Lock", "defer sync rf.Unlock", "range rf.RecentMessages.GetMessages()", "return"] ∧
    Gen.proxy_maxNumberOfMessagesStored = 20 := by
  repeat' constructor
  all_goals decide

/-- What the client loop hands over — each byte of the chunk, by value and from the loop
    itself (no feeder goroutine), to the parser; the chunk itself upstream. -/
theorem tie_handover :
    Gen.sent_proxy_handleClientMessages = some ["byteChan <- data[i]", "server.Write(data[:n])"] := rfl

/-- The guards of the relay loops, the queue updater and `Status`. -/
theorem tie_guards_proxy : type_of% Ntrip.Guards.proxy := Ntrip.Guards.proxy

/-- The guards and loop headers of the framing code this property builds on. -/
theorem tie_framing : type_of% Ntrip.Guards.framing := Ntrip.Guards.framing

/-- The literals of the framing model are the constants of the source. -/
theorem tie_framing_consts : type_of% Ntrip.Guards.framing_consts := Ntrip.Guards.framing_consts

end Ntrip.C19
