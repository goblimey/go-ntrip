import Ntrip.Guards.FramingReads
import Ntrip.Guards.FramingConsts
import Ntrip.Properties.C07
import Ntrip.Generated.Consts
import Ntrip.Generated.Layouts
import Ntrip.Generated.Skeletons
import Ntrip.Generated.Tables
import Ntrip.Guards.Base
import Ntrip.Guards.Framing
import Ntrip.Guards.Msm
/-! T1 obligations of C07: the source still has the shape the model assumes.  Obligations of C07 only; a statement
    given as `type_of% Ntrip.Guards.x` is written out in `Guards/`. -/
namespace Ntrip.C07

/-- The guards' constants. -/
theorem tie_guards :
    Gen.header_minBitsInHeader = 169 ∧ Gen.header_maxLengthOfCellMask = 64 ∧
    Gen.sat4_CellLengthInBits = 18 ∧ Gen.sat7_CellLengthInBits = 36 ∧
    Gen.sig4_GetSignalCells_bitsPerCell = 48 ∧ Gen.sig7_bitsPerCell = 80 ∧
    Gen.utils_CRCLengthBits = 24 ∧ Gen.utils_LeaderLengthBits = 24 ∧
    Gen.sig4_numSignalCells_source = "header.NumSignalCells" ∧
    Gen.sig7_numSignalCells_source = "header.NumSignalCells" := by decide

/-- Guards and loop headers of the modelled code, regenerated from the source. -/
theorem tie_guards_msm : type_of% Ntrip.Guards.msm := Ntrip.Guards.msm

theorem tie_guards_base : type_of% Ntrip.Guards.base := Ntrip.Guards.base

theorem tie_guards_framing : type_of% Ntrip.Guards.framing := Ntrip.Guards.framing

/-- The expressions of the display code that can panic by themselves, regenerated
    from the source; each is safe for the reason given. -/
theorem display_whitelist :
    -- comma-ok type assertions on `message.Readable`
    Gen.display_handler_Message_String = some ["assert message.Readable", "deref *msm4Message.Message",
      "deref *msm7Message.Message", "deref *type1005.Message", "deref *type1006.Message"] ∧
    Gen.display_handler_PrepareForDisplay = some [] ∧ Gen.display_handler_Analyse = some [] ∧
    Gen.display_handler_Handler_getStartTimeDisplay = some [] ∧
    -- shifts by a non-negative loop counter; `range` loops over the header's own slices
    Gen.display_header_Header_String = some ["arith header.SatelliteMask>>s", "arith header.SignalMask>>s",
      "index header.Cells[i]", "index header.Cells[i][j]"] ∧
    -- `message.Header` is set by the decoder; `range` loops over the message's own slices
    Gen.display_msg4_Message_String = some ["chain message.Header.String"] ∧
    Gen.display_msg4_Message_DisplaySatelliteCells = some ["index message.Satellites[i]"] ∧
    Gen.display_msg4_Message_DisplaySignalCells = some ["index message.Signals[i]", "index message.Signals[i][j]"] ∧
    Gen.display_msg7_Message_String = some ["chain message.Header.String"] ∧
    Gen.display_msg7_Message_DisplaySatelliteCells = some ["index message.Satellites[i]"] ∧
    Gen.display_msg7_Message_DisplaySignalCells = some ["index message.Signals[i]", "index message.Signals[i][j]"] ∧
    Gen.display_sat4_Cell_String = some [] ∧ Gen.display_sat7_Cell_String = some [] ∧
    -- `cell.Satellite` is never nil in a decoded message (`decoded_pointers_exist`)
    Gen.display_sig4_Cell_String = some ["chain cell.Satellite.ID", "chain cell.Satellite.RangeWholeMillis"] ∧
    Gen.display_sig7_Cell_String = some ["chain cell.Satellite.ID", "chain cell.Satellite.PhaseRangeRate",
      "chain cell.Satellite.RangeWholeMillis"] ∧
    Gen.display_sig4_Cell_GetAggregateRange = some ["chain cell.Satellite.RangeFractionalMillis", "chain cell.Satellite.RangeWholeMillis"] ∧
    Gen.display_sig4_Cell_GetAggregatePhaseRange = some ["chain cell.Satellite.RangeFractionalMillis", "chain cell.Satellite.RangeWholeMillis"] ∧
    Gen.display_sig7_Cell_GetAggregateRange = some ["chain cell.Satellite.RangeFractionalMillis", "chain cell.Satellite.RangeWholeMillis"] ∧
    Gen.display_sig7_Cell_GetAggregatePhaseRange = some ["chain cell.Satellite.RangeFractionalMillis", "chain cell.Satellite.RangeWholeMillis"] ∧
    Gen.display_sig7_Cell_GetAggregatePhaseRangeRate = some ["chain cell.Satellite.PhaseRangeRate"] ∧
    -- floating-point divisions (never panic)
    Gen.display_sig4_Cell_PhaseRange = some ["arith phaseRangeLMS/cell.Wavelength"] ∧
    Gen.display_sig7_Cell_PhaseRange = some ["arith phaseRangeLMS/cell.Wavelength"] ∧
    Gen.display_sig7_Cell_PhaseRangeRateDoppler = some ["arith phaseRangeRateMetresPerSecond/cell.Wavelength"] ∧
    Gen.display_sig4_Cell_RangeInMetres = some [] ∧ Gen.display_sig7_Cell_RangeInMetres = some [] ∧
    Gen.display_sig7_Cell_PhaseRangeRate = some [] ∧
    Gen.display_t1005_Message_String = some [] ∧ Gen.display_t1006_Message_String = some [] := by
  repeat' constructor
  all_goals decide

/-- The literals of the framing model are the constants of the source. -/
theorem tie_framing_consts : type_of% Ntrip.Guards.framing_consts := Ntrip.Guards.framing_consts

/-- The bit fields the framing code reads, their widths and signedness. -/
theorem tie_framing_reads : type_of% Ntrip.Guards.framing_reads := Ntrip.Guards.framing_reads

end Ntrip.C07
