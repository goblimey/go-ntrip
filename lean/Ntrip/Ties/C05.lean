import Ntrip.Properties.C05
import Ntrip.Generated.Consts
import Ntrip.Generated.Layouts
import Ntrip.Generated.Skeletons
import Ntrip.Generated.Tables
import Ntrip.Guards.Base
/-! T1 obligations of C05: the source still has the shape the model assumes.  Obligations of C05 only; a statement
    given as `type_of% Ntrip.Guards.x` is written out in `Guards/`. -/
namespace Ntrip.C05

/-- The layouts extracted from the current source are the standard's, the length
    constants are their sums, the expected types are 1005/1006. -/
theorem tie_layouts :
    BaseKind.t1005.layout = some (std .t1005) ∧ BaseKind.t1006.layout = some (std .t1006) ∧
    BaseKind.t1005.messageBits = 152 ∧ BaseKind.t1006.messageBits = 168 ∧
    BaseKind.t1005.expectedType = 1005 ∧ BaseKind.t1006.expectedType = 1006 := by decide

/-- Guards and loop headers of the modelled code, regenerated from the source. -/
theorem tie_guards_base : type_of% Ntrip.Guards.base := Ntrip.Guards.base

end Ntrip.C05
