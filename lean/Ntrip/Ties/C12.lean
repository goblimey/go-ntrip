import Ntrip.Guards.FramingReads
import Ntrip.Guards.FramingConsts
import Ntrip.Properties.C12
import Ntrip.Generated.Consts
import Ntrip.Generated.Layouts
import Ntrip.Generated.Skeletons
import Ntrip.Generated.Tables
import Ntrip.Guards.Framing
/-! T1 obligations of C12: the source still has the shape the model assumes.  Obligations of C12 only; a statement
    given as `type_of% Ntrip.Guards.x` is written out in `Guards/`. -/
namespace Ntrip.C12

/-- Guards and loop headers of the modelled code, regenerated from the source. -/
theorem tie_guards_framing : type_of% Ntrip.Guards.framing := Ntrip.Guards.framing

/-- The literals of the framing model are the constants of the source. -/
theorem tie_framing_consts : type_of% Ntrip.Guards.framing_consts := Ntrip.Guards.framing_consts

/-- The bit fields the framing code reads, their widths and signedness. -/
theorem tie_framing_reads : type_of% Ntrip.Guards.framing_reads := Ntrip.Guards.framing_reads

end Ntrip.C12
