import Ntrip.Properties.C15
import Ntrip.Generated.Consts
import Ntrip.Generated.Layouts
import Ntrip.Generated.Skeletons
import Ntrip.Generated.Tables
import Ntrip.Guards.Apps_analyse
import Ntrip.Guards.Writes_decoders_pure
import Ntrip.Guards.Writes_handler_state
/-! T1 obligations of C15: the source still has the shape the model assumes.  Obligations of C15 only; a statement
    given as `type_of% Ntrip.Guards.x` is written out in `Guards/`. -/
namespace Ntrip.C15

/-- No library package keeps mutable package-level state: the only package-level
    variables are the lookup tables, offsets and time zones of `utils`, and nothing outside
    `init` writes to any package-level variable. -/
theorem tie_no_hidden_state :
    Gen.globals_utils = ["BeidouLeapSeconds", "BeidouTimeOffset", "GPSTimeOffset", "GlonassTimeOffset", "LocationGMT",
      "LocationLondon", "LocationMoscow", "LocationParis", "LocationUTC", "MSM4MessageTypes", "MSM7MessageTypes"] ∧
    Gen.global_writes_utils = [] ∧
    Gen.globals_header = [] ∧ Gen.globals_handler = [] ∧ Gen.globals_pushback = [] ∧
    Gen.globals_t1005 = [] ∧ Gen.globals_t1006 = [] ∧ Gen.globals_sat4 = [] ∧ Gen.globals_sig4 = [] ∧
    Gen.globals_msg4 = [] ∧ Gen.globals_sat7 = [] ∧ Gen.globals_sig7 = [] ∧ Gen.globals_msg7 = [] ∧
    Gen.globals_appcore = [] ∧ Gen.globals_fh = [] ∧
    Gen.global_writes_header = [] ∧ Gen.global_writes_handler = [] ∧ Gen.global_writes_pushback = [] ∧
    Gen.global_writes_t1005 = [] ∧ Gen.global_writes_t1006 = [] ∧ Gen.global_writes_sat4 = [] ∧
    Gen.global_writes_sig4 = [] ∧ Gen.global_writes_msg4 = [] ∧ Gen.global_writes_sat7 = [] ∧
    Gen.global_writes_sig7 = [] ∧ Gen.global_writes_msg7 = [] ∧ Gen.global_writes_appcore = [] ∧
    Gen.global_writes_fh = [] := by
  repeat' constructor
  all_goals decide

/-- The fan-out sends the message *value* to every consumer (`send appCore.Channels[i]`
    inside the range loop), and `Analyse` fills `Readable` lazily only when it is nil. -/
theorem tie_fanout :
    Gen.skeleton_appcore_AppCore_HandleMessagesUntilEOF = some ["makechan cap=0", "go fh.Handle", "for",
      "recv messageChan", "return", "range appCore.Channels", "send appCore.Channels[i]", "return"] := rfl

/-- The conditions and the effects (field writes, helper calls) of `Analyse`, `analyse*`, `String`, `Copy`, the message constructors: decoding writes `ErrorMessage`/`Readable` by plain assignment and nothing else. -/
theorem tie_guards_analyse : type_of% Ntrip.Guards.analyse := Ntrip.Guards.analyse

/-- Receiver writes: no method of a decoded message, header, satellite or signal cell assigns to its receiver: display and the range accessors cannot alter what was decoded. -/
theorem tie_writes_decoders_pure : type_of% Ntrip.Guards.decoders_pure := Ntrip.Guards.decoders_pure

/-- Receiver writes: the handler's methods write only its week-start/previous-timestamp fields (the time lines) and the push-back buffer. -/
theorem tie_writes_handler_state : type_of% Ntrip.Guards.handler_state := Ntrip.Guards.handler_state

end Ntrip.C15
